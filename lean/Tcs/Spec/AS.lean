import Tcs.Model.History
namespace Tcs

/-! Abstract storage: the common refinement target of `Mem` and `Sql`.
    It is *strict*: a call outside the storage contract's preconditions is an error here, and the
    simulation theorems claim nothing about the concrete backends for such calls (that is where
    they are allowed to, and do, differ). -/

/-- Everything stored for one client. `versions` is in insertion order. -/
structure CSt where
  client : Option Client := none
  data : Option Bytes := none
  versions : List Version := []

structure AS where
  st : Uuid → CSt := fun _ => {}
  ids : List Uuid := []          -- every version id stored, for any client (SQLite's primary key is global)

def upd (f : Uuid → CSt) (c : Uuid) (x : CSt) : Uuid → CSt := fun d => if d = c then x else f d

@[simp] theorem upd_same (f : Uuid → CSt) (c x) : upd f c x c = x := by simp [upd]
@[simp] theorem upd_other (f : Uuid → CSt) (c d x) (h : d ≠ c) : upd f c x d = f d := by simp [upd, h]

theorem upd_self (f : Uuid → CSt) (c : Uuid) : upd f c (f c) = f := by
  funext d; by_cases h : d = c <;> simp [upd, h]

theorem upd_upd (f : Uuid → CSt) (c : Uuid) (x y : CSt) : upd (upd f c x) c y = upd f c y := by
  funext d; by_cases h : d = c <;> simp [upd, h]

/-- The record and the id set put back as they were. The shape `a.ids ++ []` is the one the whole-storage step
    (`asStep`) leaves when a request adds no id, and `l ++ []` does not reduce to `l` by computation. -/
theorem AS.upd_self (a : AS) (c : Uuid) : (⟨upd a.st c (a.st c), a.ids ++ []⟩ : AS) = a := by
  rw [Tcs.upd_self, List.append_nil]

def bump (s : Snapshot) : Snapshot := { s with since := s.since + 1 }

def AS.exec (cl : Uuid) : (c : Call) → AS → Except StorageErr c.Resp × AS
  | .getClient, s => (.ok (s.st cl).client, s)
  | .newClient l, s =>
    match (s.st cl).client with
    | some _ => (.error (.err "contract: client exists"), s)
    | none => (.ok (), { s with st := upd s.st cl { (s.st cl) with client := some ⟨l, none⟩ } })
  | .setSnapshot sn d, s =>
    match (s.st cl).client with
    | none => (.error (.err "contract: no such client"), s)
    | some c => (.ok (), { s with st := upd s.st cl { (s.st cl) with client := some { c with snap := some sn }, data := some d } })
  | .getSnapshotData v, s =>
    match (s.st cl).client with
    | none => (.error (.err "contract: no such client"), s)
    | some c =>
      if c.snap.map (·.vid) = some v then
        match (s.st cl).data with
        | some d => (.ok (some d), s)
        | none => (.error (.err "contract: snapshot without data"), s)
      else (.error (.err "contract: unexpected snapshot version"), s)
  | .getByParent p, s => (.ok ((s.st cl).versions.find? (·.parent = p)), s)
  | .getVersion v, s => (.ok ((s.st cl).versions.find? (·.id = v)), s)
  | .addVersion v p seg, s =>
    match (s.st cl).client with
    | none => (.error (.err "contract: no such client"), s)
    | some c =>
      if v ∈ s.ids then (.error (.err "contract: version id exists"), s)
      else if (s.st cl).versions.any (·.parent = p) then (.error (.err "contract: parent has a child"), s)
      else
        (.ok (), { st := upd s.st cl { (s.st cl) with
                     client := some { latest := v, snap := c.snap.map bump },
                     versions := (s.st cl).versions ++ [⟨v, p, seg⟩] },
                   ids := s.ids ++ [v] })
  | .commit, s => (.ok (), s)

def ASB : Backend AS := ⟨AS.exec⟩

/-- Per-call simulation of a concrete backend by the abstract storage, through an abstraction
    function and a representation invariant. Only successful abstract calls are constrained. -/
structure Sim {σ} (B : Backend σ) (abs : σ → AS) (Rep : σ → Prop) : Prop where
  call : ∀ (cl : Uuid) (c : Call) (s : σ) (r : c.Resp) (a' : AS), Rep s →
    AS.exec cl c (abs s) = (.ok r, a') →
      (B.exec cl c s).1 = .ok r ∧ abs (B.exec cl c s).2 = a' ∧ Rep (B.exec cl c s).2

end Tcs
