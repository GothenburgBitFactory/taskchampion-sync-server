import Tcs.Spec.HttpSpec
import Tcs.Spec.CStep
namespace Tcs

/-! The transaction-atomic machine for HTTP-level requests, over the abstract storage, and the vocabulary of the
    linearizability theorem. (`C03_reduction` reduces every interleaving to `runAtomic` of the handler programs on a
    backend; that run is tied to this machine, step for step, by `runinv_run`.)

    A request is a thread; thread `t` executes `evs[t]`. Every step of the machine is one
    *transaction* of one thread (or its invocation / its response); which thread moves next is up to
    an arbitrary schedule. All requests consist of one transaction, except the HTTP `AddVersion` for
    a client the server has never seen, which consists of three: the attempt (answers "no such
    client"), the creation of the client, the second attempt. -/

/-- phases of one request -/
inductive Phase where
  | idle                 -- not yet invoked
  | ready                -- invoked; the next step is its (first) transaction
  | needCreate           -- an AddVersion saw "no such client"; the next step is the creation transaction
  | retry                -- creation transaction done; the next step is the AddVersion transaction again
  | answered (o : Out)   -- last transaction done; the next step sends the response
  | finished (o : Out)
  deriving DecidableEq

/-- ghost log of externally visible moments (`lin` = the request's last transaction) -/
inductive Act where
  | invoke (t : Nat) | lin (t : Nat) | respond (t : Nat)
  deriving DecidableEq

structure MState where
  a : AS
  ph : List Phase
  log : List Act := []

/-- protocol requests as they arrive over HTTP -/
def Ev.isHttp : Ev → Bool
  | .av .. | .gcv .. | .as .. | .gs .. => true
  | _ => false

/-- protocol requests as they arrive through the library interface (`Server::…` called directly: no client creation) -/
def Ev.isLib : Ev → Bool
  | .avLib .. | .gcv .. | .as .. | .gs .. => true
  | _ => false

/-- the request sets the linearizability theorem covers: all through HTTP, or all through the library -/
def ReqMix (evs : List Ev) : Prop := (∀ e ∈ evs, e.isHttp = true) ∨ (∀ e ∈ evs, e.isLib = true)

/-- does the request's transaction find "no such client" and go on to create it? (only the HTTP AddVersion does) -/
def needsCreate (e : Ev) (a : AS) : Bool :=
  match e with
  | .av c .. => (a.st c).client.isNone
  | _ => false

/-- the final transaction of a request (for the HTTP AddVersion: `Server::add_version` on an existing client) -/
def linStep (S : Sys) (e : Ev) (a : AS) : Out × AS :=
  match e with
  | .av c p seg n now => asStep S (.avLib c p seg n now) a
  | e => asStep S e a

/-- the client-creation transaction -/
def createStep (S : Sys) (e : Ev) (a : AS) : AS :=
  match e.client with
  | some c => (asStep S (.create c) a).2
  | none => a

/-- one step of thread `t` (whose request is `evs[t]`); `none` = the thread cannot move -/
def mstep (S : Sys) (evs : List Ev) (m : MState) (t : Nat) : Option MState :=
  match evs[t]?, m.ph[t]? with
  | some e, some ph =>
    match ph with
    | .idle => some { m with ph := m.ph.set t .ready, log := m.log ++ [.invoke t] }
    | .ready | .retry =>
      if needsCreate e m.a then some { m with ph := m.ph.set t .needCreate }
      else some { a := (linStep S e m.a).2, ph := m.ph.set t (.answered (linStep S e m.a).1), log := m.log ++ [.lin t] }
    | .needCreate => some { m with a := createStep S e m.a, ph := m.ph.set t .retry }
    | .answered o => some { m with ph := m.ph.set t (.finished o), log := m.log ++ [.respond t] }
    | .finished _ => none
  | _, _ => none

def mrun (S : Sys) (evs : List Ev) (m : MState) : List Nat → MState
  | [] => m
  | t :: ts =>
    match mstep S evs m t with
    | none => mrun S evs m ts
    | some m' => mrun S evs m' ts

def minit (a : AS) (evs : List Ev) : MState := { a := a, ph := evs.map fun _ => .idle, log := [] }

/-- the linearization order read off the log -/
def linOrder (log : List Act) : List Nat := log.filterMap fun | .lin t => some t | _ => none

/-- one-at-a-time execution of whole requests (`asStep` = the sequential specification of a request),
    in the order given by a list of thread numbers -/
def seqRun (S : Sys) (evs : List Ev) : List Nat → AS → AS × List (Nat × Out)
  | [], a => (a, [])
  | t :: ts, a =>
    match evs[t]? with
    | none => seqRun S evs ts a
    | some e =>
      ((seqRun S evs ts (asStep S e a).2).1, (t, (asStep S e a).1) :: (seqRun S evs ts (asStep S e a).2).2)

/-- what an HTTP client can tell apart -/
def sameResp (o o' : Out) : Prop := respond o = respond o'

/-- … relaxed by the one known corner F3: an AddSnapshot that runs while the client exists only as the empty record
    left by a concurrent AddVersion's creation transaction is answered 200 (declined) instead of 404 -/
def sameRespF3 (e : Ev) (o o' : Out) : Prop :=
  sameResp o o' ∨ ((match e with | .as .. => True | _ => False) ∧ o = .asDone false ∧ o' = .noSuchClient)

def Ev.isAv : Ev → Bool | .av .. => true | _ => false

/-- exact agreement, or – only if some request of the set is an HTTP AddVersion (the one request made of several
    transactions) – agreement as seen by an HTTP client, modulo F3 -/
def RespRel (evs : List Ev) (e : Ev) (o o' : Out) : Prop :=
  o = o' ∨ ((∃ e' ∈ evs, e'.isAv = true) ∧ sameRespF3 e o o')

theorem RespRel.weaken {evs : List Ev} {e : Ev} {o o' : Out} (h : RespRel evs e o o') : sameRespF3 e o o' := by
  rcases h with rfl | ⟨_, h⟩
  · exact .inl rfl
  · exact h

theorem RespRel.eq_of_lib {evs : List Ev} {e : Ev} {o o' : Out} (hlib : ∀ e ∈ evs, e.isLib = true) (h : RespRel evs e o o') :
    o = o' := by
  rcases h with h | ⟨⟨e', he', hav⟩, _⟩
  · exact h
  · have := hlib e' he'
    cases e' <;> simp [Ev.isAv, Ev.isLib] at hav this

def Phase.out? : Phase → Option Out | .answered o | .finished o => some o | _ => none

def allFinished (m : MState) : Prop := ∀ p ∈ m.ph, ∃ o, p = .finished o

/-- `x` occurs before `y` in `l` -/
def Before {α} (l : List α) (x y : α) : Prop := ∃ l1 l2 l3, l = l1 ++ x :: l2 ++ y :: l3

end Tcs
