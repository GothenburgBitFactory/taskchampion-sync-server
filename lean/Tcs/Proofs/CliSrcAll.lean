import Tcs.Proofs.CliSrcTie
import Tcs.Proofs.CliWire
namespace Tcs

/-! The two halves of the C17 source tie composed: from the flags and the environment to what `main` constructs, with
    both the declarations and the wiring taken from the current source. -/

/-- what the source says `main` constructs from a command line and an environment: clap's rule on the generated
    declarations, then the generated wiring -/
def mainSrc (c : Cli) : Option Wired := (resolveSpec CliSrc.args c).bind (wire CliSrc.wiring)

/-- what the model says: `resolve`, then the server configuration `httpCfgOf`, the resolved directory, every resolved
    address bound (start-up fails otherwise) -/
def mainModel (c : Cli) : Option Wired :=
  (resolve c).map fun a => { cfg := httpCfgOf a, dir := a.dataDir, listen := a.listen, bindAll := true }

/-- **C17, source side**: for every command line and environment, the source and the model construct the same server
    (or both refuse to start with a usage error) -/
theorem cliSrc_main (c : Cli) : mainSrc c = mainModel c := by
  -- rewriting, not `exact cliSrc_wire a` against an unreduced goal: unification would evaluate the wiring table again
  rw [mainSrc, cliSrc_resolve, mainModel, Option.map_eq_bind]
  exact congrArg _ (funext cliSrc_wire)

/-- non-vacuity: whenever the model resolves a configuration – e.g. `C17_defaults`: one `--listen` and nothing else – the
    source constructs the server on exactly the resolved values -/
theorem cliSrc_main_some (c : Cli) (a : ServerArgs) (h : resolve c = some a) :
    mainSrc c = some { cfg := httpCfgOf a, dir := a.dataDir, listen := a.listen, bindAll := true } := by
  rw [cliSrc_main, mainModel, h]; rfl

theorem cliSrc_main_none (c : Cli) (h : resolve c = none) : mainSrc c = none := by
  rw [cliSrc_main, mainModel, h]; rfl

/-- non-vacuity: with one or more `--listen` flags and nothing else, the source serves with the default targets, on the
    default directory, with no allow-list, and binds every address given -/
example (l : List String) (hl : l ≠ []) :
    mainSrc { listenFlag := l } =
      some { cfg := { cfg := ⟨14, 100⟩, allow := none }, dir := "/var/lib/taskchampion-sync-server",
             listen := l.flatMap (·.splitOn ","), bindAll := true } := by
  rw [cliSrc_main]
  simp [mainModel, httpCfgOf, resolve, versionsOf, daysOf, allowOf, single, rawValues, hl, DEFAULT_DATA_DIR, DEFAULT_VERSIONS, DEFAULT_DAYS]

end Tcs
