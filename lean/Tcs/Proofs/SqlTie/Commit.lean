import Tcs.Proofs.SqlTie.Lemmas
namespace Tcs

theorem sqlSrc_commit (cl : Uuid) (s : Sql) :
    SqlGen.exec cl .commit (encSql s) = ((Sql.exec cl .commit s).1, encSql (Sql.exec cl .commit s).2) := by
  simp [SqlGen.exec, SqlSrc.commitStmts, Sql.exec]


end Tcs
