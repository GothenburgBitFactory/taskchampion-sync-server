import Tcs.Proofs.SqlTie.Lemmas
namespace Tcs

/-! The columns are read by name: holds whatever the order of the select list. -/

theorem sqlSrc_getSnapshotData (cl v : Uuid) (s : Sql) :
    SqlGen.exec cl (.getSnapshotData v) (encSql s) =
      ((Sql.exec cl (.getSnapshotData v) s).1, encSql (Sql.exec cl (.getSnapshotData v) s).2) := by
  simp only [SqlGen.exec, SqlSrc.getSnapshotData, run1, execStmt, RowDb.get, encSql, List.map_cons, List.map_nil, bindP, Sql.exec, selCols]
  rw [find_map_enc encC s.clients _ (fun r => decide (r.clientId = cl)) (matches_client cl _ _ rfl)]
  cases s.clients.find? (fun r => decide (r.clientId = cl)) with
  | none => rfl
  | some r =>
    -- the decoding closure, by the NULL patterns of the two columns it reads
    rcases r with ⟨cid, lat, _ | sv, since, ts, _ | snap⟩
    iterate 3 rfl
    -- both present: the check of the version id
    by_cases h : sv = v <;> simp [h, encC, asId, asBlob, optId, optBlob, errG]

end Tcs
