import Tcs.Proofs.SqlTie.Lemmas
namespace Tcs

/-! Holds whatever the order in which the INSERT lists its columns and the UPDATE its assignments, and wherever the
    parameters sit in the parameter lists. -/

theorem sqlSrc_addVersion (cl v p : Uuid) (seg : Bytes) (s : Sql) :
    SqlGen.exec cl (.addVersion v p seg) (encSql s) =
      ((Sql.exec cl (.addVersion v p seg) s).1, encSql (Sql.exec cl (.addVersion v p seg) s).2) := by
  simp only [SqlGen.exec, SqlSrc.addVersion, run1, execStmt, RowDb.get, RowDb.set, encSql, List.map_cons, List.map_nil, bindP, Sql.exec,
    pkOf]
  -- the inserted row, column by column, whatever the order in which the INSERT lists its columns
  generalize hnr : newRow _ _ _ = nr
  obtain rfl : nr = encV ⟨v, cl, p, seg⟩ := by rw [← hnr]; funext c; cases c <;> rfl
  rw [any_map_enc encV s.versions _ (fun r => decide (r.versionId = v)) (by intro r; simp [sqlEq, encV])]
  cases s.versions.any (fun r => decide (r.versionId = v)) with
  | true => simp [errG]
  | false =>
    simp only [Bool.false_eq_true, ↓reduceIte, List.map_append, List.map_cons, List.map_nil]
    rw [update_map_enc encC _ _ _ (fun r => r.clientId = cl) _ (matches_client cl _ _ rfl)]
    -- the SET list, column by column (`versions_since_snapshot + 1` is NULL on NULL)
    intro r _
    funext c
    rcases r with ⟨cid, lat, sv, _ | since, ts, snap⟩ <;> cases c <;> rfl

end Tcs
