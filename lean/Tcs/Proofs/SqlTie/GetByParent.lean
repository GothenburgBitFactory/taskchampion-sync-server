import Tcs.Proofs.SqlTie.Lemmas
namespace Tcs

/-! The columns are read by name: holds whatever the order of the select list and wherever the parameters sit in the
    parameter list; the two conditions of the WHERE clause are taken in the order of the source. -/

theorem sqlSrc_getByParent (cl p : Uuid) (s : Sql) :
    SqlGen.exec cl (.getByParent p) (encSql s) = ((Sql.exec cl (.getByParent p) s).1, encSql (Sql.exec cl (.getByParent p) s).2) := by
  simp only [SqlGen.exec, SqlSrc.getByParent, run1, execStmt, RowDb.get, encSql, List.map_cons, List.map_nil, bindP, Sql.exec, selCols]
  rw [find_map_enc encV s.versions _ (fun r => decide (r.parent = p ∧ r.clientId = cl)) (by
    intro r; simp [rowMatches, sqlEq, param, encV])]
  cases s.versions.find? (fun r => decide (r.parent = p ∧ r.clientId = cl)) with
  | none | some => rfl

end Tcs
