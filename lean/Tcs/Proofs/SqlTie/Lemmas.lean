import Tcs.Model.SqlGen
namespace Tcs

/-! **The source ties of the SQLite backend, `SqlTie/*`.** `tools/sql2lean.py` turns the SQL text and the parameter lists of
    /repo's current `sqlite/src/lib.rs` into statements of the miniature SQL of `Model/SqlSem.lean`. Each tie says that the
    statement(s) of one storage call, run by that semantics (`SqlGen.exec`) on the encoded tables, are the hand-written
    table model `Sql.exec` for the call, on every state. One module per call, so that a change to one statement leaves
    the ties of the others standing. The lemmas here carry one list operation of the semantics (first match, any,
    filter, row-wise update) across the encoding of typed rows as untyped ones. -/

theorem find_map_enc {α} (f : α → Row) (l : List α) (p : Row → Bool) (q : α → Bool) (h : ∀ a, p (f a) = q a) :
    (l.map f).find? p = (l.find? q).map f := by
  simp only [List.find?_map, Function.comp_def, h]

theorem any_map_enc {α} (f : α → Row) (l : List α) (p : Row → Bool) (q : α → Bool) (h : ∀ a, p (f a) = q a) :
    (l.map f).any p = l.any q := by
  simp only [List.any_map, Function.comp_def, h]

theorem filter_map_enc {α} (f : α → Row) (l : List α) (p : Row → Bool) (q : α → Bool) (h : ∀ a, p (f a) = q a) :
    (l.map f).filter p = (l.filter q).map f := by
  simp only [List.filter_map, Function.comp_def, h]

theorem filter_of_not_any {α} (l : List α) (p : α → Bool) (h : l.any p = false) : l.filter (fun a => !p a) = l := by
  simp_all [List.filter_eq_self]

/-- an UPDATE over a table of encoded rows is the typed update, once its WHERE clause (`hq`) and its SET list (`hf`) have
    been read on typed rows -/
theorem update_map_enc {α} (enc : α → Row) (w : List (Col × Nat)) (sets : List (Col × SetE)) (ps : List SqlVal)
    (q : α → Prop) [DecidablePred q] (f : α → α)
    (hq : ∀ a, rowMatches w ps (enc a) = decide (q a)) (hf : ∀ a, q a → updRow sets ps (enc a) = enc (f a)) (l : List α) :
    (l.map enc).map (fun r => if rowMatches w ps r then updRow sets ps r else r) =
      (l.map fun a => if q a then f a else a).map enc := by
  simp only [List.map_map]
  apply List.map_congr_left
  intro a _
  simp only [Function.comp, hq]
  by_cases h : q a <;> simp [h, hf]

/-- `WHERE client_id = ?` on a clients row, wherever the client id sits in the parameter list -/
theorem matches_client (cl : Uuid) (i : Nat) (ps : List SqlVal) (h : param ps i = .id cl) (r : ClientRow) :
    rowMatches [(Col.client_id, i)] ps (encC r) = decide (r.clientId = cl) := by
  simp [rowMatches, sqlEq, h, encC]

-- makes Lean generate the unfolding equations of these definitions here, once, and not in every call module again
attribute [local simp] SqlGen.exec run1 execStmt RowDb.get RowDb.set encSql bindP Sql.exec selCols pkOf

end Tcs
