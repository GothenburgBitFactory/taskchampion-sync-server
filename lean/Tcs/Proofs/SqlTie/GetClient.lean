import Tcs.Proofs.SqlTie.Lemmas
namespace Tcs

/-! The closure in the source reads the columns by POSITION in the select list, so this tie depends on their order (and
    should); it does not depend on where the client id sits among the parameters. -/

theorem sqlSrc_getClient (cl : Uuid) (s : Sql) :
    SqlGen.exec cl .getClient (encSql s) = ((Sql.exec cl .getClient s).1, encSql (Sql.exec cl .getClient s).2) := by
  simp only [SqlGen.exec, SqlSrc.getClient, run1, execStmt, RowDb.get, encSql, List.map_cons, List.map_nil, bindP, Sql.exec, selCols]
  rw [find_map_enc encC s.clients _ (fun r => decide (r.clientId = cl)) (matches_client cl _ _ rfl)]
  cases s.clients.find? (fun r => decide (r.clientId = cl)) with
  | none => rfl
  | some r =>
    -- the decoding closure, by the eight NULL patterns of the three snapshot columns
    rcases r with ⟨cid, lat, _ | sv, _ | since, _ | ts, snap⟩ <;> rfl

end Tcs
