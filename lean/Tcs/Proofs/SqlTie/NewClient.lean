import Tcs.Proofs.SqlTie.Lemmas
namespace Tcs

/-! Holds whatever the order in which the INSERT lists its columns. -/

theorem sqlSrc_newClient (cl l : Uuid) (s : Sql) :
    SqlGen.exec cl (.newClient l) (encSql s) = ((Sql.exec cl (.newClient l) s).1, encSql (Sql.exec cl (.newClient l) s).2) := by
  simp only [SqlGen.exec, SqlSrc.newClient, run1, execStmt, RowDb.get, RowDb.set, encSql, List.map_cons, List.map_nil, bindP, Sql.exec,
    pkOf]
  -- the inserted row, column by column, whatever the order in which the INSERT lists its columns
  generalize hnr : newRow _ _ _ = nr
  obtain rfl : nr = encC { clientId := cl, latest := l } := by rw [← hnr]; funext c; cases c <;> rfl
  have hkey : ∀ r : ClientRow, sqlEq (encC r Col.client_id) (encC { clientId := cl, latest := l } Col.client_id) =
      decide (r.clientId = cl) := by intro r; simp [sqlEq, encC]
  rw [any_map_enc encC s.clients _ _ hkey, filter_map_enc encC s.clients _ (fun r => decide (r.clientId ≠ cl)) (by intro r; simp [hkey])]
  -- OR REPLACE: with no row of that key the filter removes nothing
  cases hany : s.clients.any (fun r => decide (r.clientId = cl)) with
  | true => simp
  | false => simp [filter_of_not_any _ _ hany]

end Tcs
