import Tcs.Proofs.SqlTie.Lemmas
namespace Tcs

/-! Holds whatever the order of the assignments in the SET list and wherever the parameters sit in the parameter list. -/

theorem sqlSrc_setSnapshot (cl : Uuid) (sn : Snapshot) (d : Bytes) (s : Sql) :
    SqlGen.exec cl (.setSnapshot sn d) (encSql s) =
      ((Sql.exec cl (.setSnapshot sn d) s).1, encSql (Sql.exec cl (.setSnapshot sn d) s).2) := by
  simp only [SqlGen.exec, SqlSrc.setSnapshot, run1, execStmt, RowDb.get, RowDb.set, encSql, List.map_cons, List.map_nil, bindP, Sql.exec]
  rw [update_map_enc encC _ _ _ (fun r => r.clientId = cl) _ (matches_client cl _ _ rfl)]
  -- the SET list, column by column
  intro r _
  funext c
  cases c <;> rfl

end Tcs
