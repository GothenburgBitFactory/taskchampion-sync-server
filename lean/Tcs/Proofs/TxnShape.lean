import Tcs.Model.Sem.Fault
namespace Tcs

/-! The shape of the server's transaction programs: read calls only, and then either a return, or ONE write call,
    `commit`, and the return of a value. `ReadOnlyUnless` says that; what the fault layer needs (`CommitLast`) and what
    the table level needs (`run_readOnly`, Proofs/NoWrite.lean) are read off it, so each program is walked once. -/

/-- `commit` is neither a read nor a write (`Call.isWrite`): `ReadOnlyUnless.commitLast` rests on that -/
def Call.isRead : Call → Bool
  | .getClient | .getSnapshotData _ | .getByParent _ | .getVersion _ => true
  | _ => false

/-- every path of the program consists of read calls only, except for paths that end with one write call, a commit and
    a value satisfying `P` -/
inductive ReadOnlyUnless {α : Type} (P : α → Prop) : TxnM α → Prop
  | ret (a : α) : ReadOnlyUnless P (.ret a)
  | read (c : Call) (k : c.Resp → TxnM α) (hc : c.isRead = true) (h : ∀ r, ReadOnlyUnless P (k r)) : ReadOnlyUnless P (.call c k)
  | write (c : Call) (hc : c.isWrite = true) (a : α) (h : P a) :
      ReadOnlyUnless P (.call c fun _ => .call .commit fun _ => .ret a)

theorem rou_bind {α β : Type} (P : β → Prop) (p : TxnM α) (f : α → TxnM β)
    (hp : ReadOnlyUnless (fun _ => False) p) (hf : ∀ a, ReadOnlyUnless P (f a)) : ReadOnlyUnless P (p.bind f) := by
  induction hp with
  | ret a => exact hf a
  | read c k hc _ ih => exact .read c _ hc ih
  | write c _ a h => exact h.elim

theorem ReadOnlyUnless.commitLast {α : Type} {P : α → Prop} {p : TxnM α} (hp : ReadOnlyUnless P p) : CommitLast p := by
  induction hp with
  | ret a => exact .ret a
  | read c k hc _ ih => exact .call c k (by rintro rfl; cases hc) ih
  | write c hc a _ => exact .call c _ (by rintro rfl; cases hc) fun _ => .commit _ a rfl

/-- every program of the server starts by looking the client up -/
theorem rou_getClient {α : Type} {P : α → Prop} {k : Option Client → TxnM α} (hn : ReadOnlyUnless P (k none))
    (hs : ∀ c, ReadOnlyUnless P (k (some c))) : ReadOnlyUnless P (.call .getClient k) :=
  .read .getClient k rfl fun
    | none => hn
    | some c => hs c

theorem rou_getChildVersion (p : Uuid) : ReadOnlyUnless (fun _ => False) (getChildVersion p) := by
  refine rou_getClient (.ret _) fun client => .read (.getByParent p) _ rfl fun r2 => ?_
  cases r2 with
  | some v => exact .ret _
  | none => show ReadOnlyUnless _ (if _ then _ else _); split <;> exact .ret _

theorem rou_getSnapshot : ReadOnlyUnless (fun _ => False) getSnapshot := by
  refine rou_getClient (.ret _) fun client => ?_
  show ReadOnlyUnless _ (match client.snap with | none => _ | some s => _)
  cases client.snap with
  | none => exact .ret _
  | some s => exact .read (.getSnapshotData s.vid) _ rfl fun r2 => by cases r2 <;> exact .ret _

theorem rou_addVersion (cfg : Config) (p : Uuid) (seg : Bytes) (newId : Uuid) (now : Int) :
    ReadOnlyUnless (fun a => ∃ v u, a = .ok (.ok v, u)) (addVersion cfg p seg newId now) := by
  refine rou_getClient (.ret _) fun client => ?_
  show ReadOnlyUnless _ (if _ then _ else _)
  split
  · exact .ret _
  · exact .write _ rfl _ ⟨_, _, rfl⟩

theorem rou_snapWalk (v : Uuid) (last : Option Uuid) (fuel : Nat) (vid : Uuid) :
    ReadOnlyUnless (fun _ => False) (snapWalk v last fuel vid) := by
  induction fuel generalizing vid with
  | zero => exact .ret _
  | succ n ih =>
    unfold snapWalk
    split
    · exact .ret _
    · split
      · exact .ret _
      · split
        · exact .ret _
        · refine .read (.getVersion vid) _ rfl fun r => ?_
          cases r with
          | none => exact .ret _
          | some ver => exact ih ver.parent

theorem rou_addSnapshot (P : Params) (v : Uuid) (data : Bytes) (now : Int) :
    ReadOnlyUnless (fun a => a = .ok true) (addSnapshot P v data now) := by
  refine rou_getClient (.ret _) fun client => ?_
  show ReadOnlyUnless _ (if _ then _ else _)
  split
  · exact .ret _
  · refine rou_bind _ _ _ (rou_snapWalk v _ P.searchLen client.latest) fun b => ?_
    cases b with
    | false => exact .ret _
    | true => exact .write _ rfl _ rfl

theorem rou_ensureFixed : ReadOnlyUnless (fun _ => True) ensureClientFixed :=
  rou_getClient (.write (.newClient Uuid.nil) rfl () trivial) fun _ => .ret _

theorem rou_ensurePinned : ReadOnlyUnless (fun _ => True) ensureClientPinned :=
  .write (.newClient Uuid.nil) rfl () trivial

theorem commitLast_getChildVersion (p : Uuid) : CommitLast (getChildVersion p) := (rou_getChildVersion p).commitLast

theorem commitLast_addVersion (cfg : Config) (p : Uuid) (seg : Bytes) (newId : Uuid) (now : Int) :
    CommitLast (addVersion cfg p seg newId now) := (rou_addVersion cfg p seg newId now).commitLast

theorem commitLast_addSnapshot (P : Params) (v : Uuid) (data : Bytes) (now : Int) :
    CommitLast (addSnapshot P v data now) := (rou_addSnapshot P v data now).commitLast

theorem commitLast_getSnapshot : CommitLast getSnapshot := rou_getSnapshot.commitLast

theorem commitLast_ensureFixed : CommitLast ensureClientFixed := rou_ensureFixed.commitLast

theorem commitLast_ensurePinned : CommitLast ensureClientPinned := rou_ensurePinned.commitLast

end Tcs
