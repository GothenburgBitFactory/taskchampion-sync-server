import Tcs.Model.Rows
import Tcs.Proofs.CodecProofs
namespace Tcs

/-! The row encoding round-trips (`decodeDb (encodeDb s) = some s`): what the pinned release wrote, the current decoder reads
    back exactly. -/

/-- every id in the tables is a 128-bit value (which is what a `Uuid` is in the Rust code) -/
def Sql.Ids128 (s : Sql) : Prop :=
  (∀ r ∈ s.clients, r.clientId.val < 2 ^ 128 ∧ r.latest.val < 2 ^ 128 ∧ ∀ v, r.snapVid = some v → v.val < 2 ^ 128) ∧
  (∀ r ∈ s.versions, r.versionId.val < 2 ^ 128 ∧ r.clientId.val < 2 ^ 128 ∧ r.parent.val < 2 ^ 128)

/-! The decoders are stated on a row with VARIABLE fields and the parse results as hypotheses: with `hyphenated _` in the
    fields, every step would carry the 32-digit expansion. -/

theorem decodeOptId_map {o : Option Uuid} (h : ∀ v, o = some v → v.val < 2 ^ 128) :
    decodeOptId (o.map hyphenated) = some o := by
  cases o with
  | none => rfl
  | some v => simp only [Option.map_some, decodeOptId, parse_hyphenated v (h v rfl)]

theorem decodeClientRow_mk {a b : List UInt8} {o : Option (List UInt8)} {c l : Uuid} {sv : Option Uuid}
    (since : Option Nat) (ts : Option Int) (snap : Option Bytes)
    (ha : parseUuid a = some c) (hb : parseUuid b = some l) (ho : decodeOptId o = some sv) :
    decodeClientRow ⟨a, b, o, since, ts, snap⟩ = some ⟨c, l, sv, since, ts, snap⟩ := by
  simp only [decodeClientRow, ha, hb, ho]

theorem decodeVersionRow_mk {a b c : List UInt8} {v k p : Uuid} (seg : Bytes)
    (ha : parseUuid a = some v) (hb : parseUuid b = some k) (hc : parseUuid c = some p) :
    decodeVersionRow ⟨a, b, c, seg⟩ = some ⟨v, k, p, seg⟩ := by
  simp only [decodeVersionRow, ha, hb, hc]

theorem decode_encode_clientRow (r : ClientRow)
    (h : r.clientId.val < 2 ^ 128 ∧ r.latest.val < 2 ^ 128 ∧ ∀ v, r.snapVid = some v → v.val < 2 ^ 128) :
    decodeClientRow (encodeClientRow r) = some r :=
  decodeClientRow_mk r.since r.ts r.snap (parse_hyphenated _ h.1) (parse_hyphenated _ h.2.1) (decodeOptId_map h.2.2)

theorem decode_encode_versionRow (r : VersionRow)
    (h : r.versionId.val < 2 ^ 128 ∧ r.clientId.val < 2 ^ 128 ∧ r.parent.val < 2 ^ 128) :
    decodeVersionRow (encodeVersionRow r) = some r :=
  decodeVersionRow_mk r.seg (parse_hyphenated _ h.1) (parse_hyphenated _ h.2.1) (parse_hyphenated _ h.2.2)

theorem mapM_decode {α β} (enc : α → β) (dec : β → Option α) (l : List α) (h : ∀ x ∈ l, dec (enc x) = some x) :
    (l.map enc).mapM dec = some l := by
  induction l with
  | nil => rfl
  | cons x xs ih =>
    simp only [List.map_cons, List.mapM_cons, h x (by simp), ih (fun y hy => h y (by simp [hy]))]
    rfl

/-- **C19 (encoding).** Decoding the stored form of any database state gives back exactly that state -/
theorem C19_row_roundtrip (s : Sql) (h : s.Ids128) : decodeDb (encodeDb s) = some s := by
  unfold decodeDb encodeDb
  rw [mapM_decode encodeClientRow decodeClientRow s.clients (fun r hr => decode_encode_clientRow r (h.1 r hr)),
      mapM_decode encodeVersionRow decodeVersionRow s.versions (fun r hr => decode_encode_versionRow r (h.2 r hr))]

/-- the stored form determines the state: two states with the same rows on disk are the same state -/
theorem C19_encode_injective (s s' : Sql) (h : s.Ids128) (h' : s'.Ids128) (he : encodeDb s = encodeDb s') : s = s' := by
  have h1 := C19_row_roundtrip s h
  have h2 := C19_row_roundtrip s' h'
  rw [he, h2] at h1
  exact (Option.some.inj h1).symm

end Tcs
