import Tcs.Generated.CliSrc
import Tcs.Model.Config
namespace Tcs

/-! The wiring map GENERATED from the binary's current source (`tools/clap2lean.py`, after its data-flow pass) is
    *interpreted* here: which resolved value reaches which constructor parameter of `main`. `cliSrc_wire` says that for every
    resolved configuration the interpretation is what the model of the running server assumes (`httpCfgOf`, the data
    directory, `startup`'s all-or-nothing binding of every listen address). Unlike `cliSrc_wiring` (equality of the map
    with a stated list) it depends only on the entries that matter and on what they mean. -/

inductive WVal
  | dir (s : String) | versions (n : Nat) | days (d : Int) | allow (o : Option (List Uuid)) | listen (l : List String)

def wlook (w : List (String × String)) (k : String) : Option String := (w.find? (·.1 == k)).map (·.2)

/-- the resolved value of a clap argument, named as `ServerArgs::new` names it in `matches.get_…("<name>")` -/
def argVal (a : ServerArgs) : String → Option WVal
  | "arg:data-dir" => some (.dir a.dataDir)
  | "arg:snapshot-versions" => some (.versions a.snapshotVersions)
  | "arg:snapshot-days" => some (.days a.snapshotDays)
  | "arg:allow-client-id" => some (.allow a.allow)
  | "arg:listen" => some (.listen a.listen)
  | _ => none

/-- the value of `server_args.<field>`: whatever `ServerArgs::new` put into that field, according to the wiring -/
def fieldVal (w : List (String × String)) (a : ServerArgs) : String → Option WVal
  | "server_args.data_dir" => (wlook w "ServerArgs.data_dir").bind (argVal a)
  | "server_args.snapshot_versions" => (wlook w "ServerArgs.snapshot_versions").bind (argVal a)
  | "server_args.snapshot_days" => (wlook w "ServerArgs.snapshot_days").bind (argVal a)
  | "server_args.client_id_allowlist" => (wlook w "ServerArgs.client_id_allowlist").bind (argVal a)
  | "server_args.listen_addresses" => (wlook w "ServerArgs.listen_addresses").bind (argVal a)
  | _ => none

/-- the field a `SqliteStorage::new(…)?` expression opens -/
def storageArg : String → Option String
  | "SqliteStorage::new(server_args.data_dir)?" => some "server_args.data_dir"
  | "SqliteStorage::new(server_args.snapshot_versions)?" => some "server_args.snapshot_versions"
  | "SqliteStorage::new(server_args.snapshot_days)?" => some "server_args.snapshot_days"
  | "SqliteStorage::new(server_args.client_id_allowlist)?" => some "server_args.client_id_allowlist"
  | "SqliteStorage::new(server_args.listen_addresses)?" => some "server_args.listen_addresses"
  | _ => none

/-- the field whose elements are bound one by one, and whether a failing bind ends start-up (`?`) -/
def bindArg : String → Option (String × Bool)
  | "each:server_args.listen_addresses:?" => some ("server_args.listen_addresses", true)
  | "each:server_args.listen_addresses:no-?" => some ("server_args.listen_addresses", false)
  | "each:server_args.data_dir:?" => some ("server_args.data_dir", true)
  | "each:server_args.client_id_allowlist:?" => some ("server_args.client_id_allowlist", true)
  | _ => none

/-- what `main` has constructed when it starts serving -/
structure Wired where
  cfg : HttpCfg
  dir : String
  listen : List String
  bindAll : Bool

def wire (w : List (String × String)) (a : ServerArgs) : Option Wired :=
  match (wlook w "ServerConfig.snapshot_days").bind (fieldVal w a),
        (wlook w "ServerConfig.snapshot_versions").bind (fieldVal w a),
        wlook w "WebServer::new.0",
        (wlook w "WebServer::new.1").bind (fieldVal w a),
        ((wlook w "WebServer::new.2").bind storageArg).bind (fieldVal w a),
        (wlook w "bind").bind bindArg with
  | some (.days d), some (.versions v), some "config", some (.allow al), some (.dir dir), some (f, q) =>
    match fieldVal w a f with
    | some (.listen l) => some { cfg := { cfg := ⟨d, v⟩, allow := al }, dir := dir, listen := l, bindAll := q }
    | _ => none
  | _, _, _, _, _, _ => none

/-! Evaluating `wire` on a literal map without comparing strings by evaluation, which decodes every literal character by
    character and is slow to check. Each definition above is rewritten with its equations on the literals it meets
    (`argVal_lits` … `bindArg_lits`), a key is looked up by walking the map with `wlook_cons_eq` / `wlook_cons_ne`, and two
    different literals are told apart by `String.reduceEq` (at the first differing character). -/

theorem wlook_cons_eq {k v : String} {w : List (String × String)} : wlook ((k, v) :: w) k = some v := by
  simp [wlook]

theorem wlook_cons_ne {k k' v : String} {w : List (String × String)} (h : k' ≠ k) : wlook ((k', v) :: w) k = wlook w k := by
  simp [wlook, h]

/-- `Option.bind_some` as an equation `simp` has to apply: the core lemma holds by `rfl`, so `simp` records no step for it
    and the two sides are compared by evaluating them after all -/
theorem obind_some {α β} (a : α) (f : α → Option β) : (some a).bind f = f a := by simp

theorem argVal_lits (a : ServerArgs) :
    argVal a "arg:data-dir" = some (.dir a.dataDir) ∧
    argVal a "arg:snapshot-versions" = some (.versions a.snapshotVersions) ∧
    argVal a "arg:snapshot-days" = some (.days a.snapshotDays) ∧
    argVal a "arg:allow-client-id" = some (.allow a.allow) ∧
    argVal a "arg:listen" = some (.listen a.listen) := by
  refine ⟨?_, ?_, ?_, ?_, ?_⟩ <;> rw [argVal]

theorem fieldVal_lits (w : List (String × String)) (a : ServerArgs) :
    fieldVal w a "server_args.data_dir" = (wlook w "ServerArgs.data_dir").bind (argVal a) ∧
    fieldVal w a "server_args.snapshot_versions" = (wlook w "ServerArgs.snapshot_versions").bind (argVal a) ∧
    fieldVal w a "server_args.snapshot_days" = (wlook w "ServerArgs.snapshot_days").bind (argVal a) ∧
    fieldVal w a "server_args.client_id_allowlist" = (wlook w "ServerArgs.client_id_allowlist").bind (argVal a) ∧
    fieldVal w a "server_args.listen_addresses" = (wlook w "ServerArgs.listen_addresses").bind (argVal a) := by
  refine ⟨?_, ?_, ?_, ?_, ?_⟩ <;> rw [fieldVal]

theorem storageArg_lits :
    storageArg "SqliteStorage::new(server_args.data_dir)?" = some "server_args.data_dir" ∧
    storageArg "SqliteStorage::new(server_args.listen_addresses)?" = some "server_args.listen_addresses" := by
  constructor <;> rw [storageArg]

theorem bindArg_lits :
    bindArg "each:server_args.listen_addresses:?" = some ("server_args.listen_addresses", true) ∧
    bindArg "each:server_args.listen_addresses:no-?" = some ("server_args.listen_addresses", false) := by
  constructor <;> rw [bindArg]

/-- **the wiring read off the current source means what the model assumes**: for every resolved configuration, `main`
    serves with exactly the resolved snapshot targets and allow-list (`httpCfgOf`), on a database in the resolved
    directory, and binds every resolved listen address, start-up failing if one cannot be bound (`startup`) -/
theorem cliSrc_wire (a : ServerArgs) :
    wire CliSrc.wiring a = some { cfg := httpCfgOf a, dir := a.dataDir, listen := a.listen, bindAll := true } := by
  -- `rw [wire]`, not `simp only [wire]`, for the same reason as `obind_some`
  rw [wire]
  simp only [CliSrc.wiring, wlook_cons_eq, wlook_cons_ne, ne_eq, String.reduceEq, not_false_eq_true, obind_some,
    fieldVal_lits, argVal_lits, storageArg_lits, bindArg_lits]
  rfl

/-- the generated wiring with the value under one key replaced -/
def wiringWith (k v : String) : List (String × String) := CliSrc.wiring.map fun e => if e.1 == k then (k, v) else e

/-- the interpretation is not vacuous: a `main` that hands the versions target to the days field, opens the storage
    on another field, or drops the `?` of `bind`, is told apart (for every resolved configuration) -/
example (a : ServerArgs) : wire (wiringWith "ServerConfig.snapshot_days" "server_args.snapshot_versions") a = none := by
  rw [wire]
  simp only [wiringWith, CliSrc.wiring, List.map_cons, List.map_nil, beq_iff_eq, String.reduceEq, if_true, if_false,
    wlook_cons_eq, wlook_cons_ne, ne_eq, not_false_eq_true, obind_some, fieldVal_lits, argVal_lits, storageArg_lits,
    bindArg_lits]
example (a : ServerArgs) : wire (wiringWith "WebServer::new.2" "SqliteStorage::new(server_args.listen_addresses)?") a = none := by
  rw [wire]
  simp only [wiringWith, CliSrc.wiring, List.map_cons, List.map_nil, beq_iff_eq, String.reduceEq, if_true, if_false,
    wlook_cons_eq, wlook_cons_ne, ne_eq, not_false_eq_true, obind_some, fieldVal_lits, argVal_lits, storageArg_lits,
    bindArg_lits]
example (a : ServerArgs) : (wire (wiringWith "bind" "each:server_args.listen_addresses:no-?") a).map (·.bindAll) = some false := by
  rw [wire]
  simp only [wiringWith, CliSrc.wiring, List.map_cons, List.map_nil, beq_iff_eq, String.reduceEq, if_true, if_false,
    wlook_cons_eq, wlook_cons_ne, ne_eq, not_false_eq_true, obind_some, Option.map_some, fieldVal_lits, argVal_lits, storageArg_lits,
    bindArg_lits]
/-- `ServerArgs::new` reading a field from the wrong argument: the days target would be whatever `--snapshot-versions` says -/
example (a : ServerArgs) : wire (wiringWith "ServerArgs.snapshot_days" "arg:snapshot-versions") a = none := by
  rw [wire]
  simp only [wiringWith, CliSrc.wiring, List.map_cons, List.map_nil, beq_iff_eq, String.reduceEq, if_true, if_false,
    wlook_cons_eq, wlook_cons_ne, ne_eq, not_false_eq_true, obind_some, fieldVal_lits, argVal_lits, storageArg_lits,
    bindArg_lits]

end Tcs
