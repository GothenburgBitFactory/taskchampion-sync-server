import Tcs.Spec.ConcSpec
import Tcs.Proofs.HistProofs
namespace Tcs

/-! Linearizability of the transaction-atomic machine (`ConcSpec`): every run, under every schedule,
    is explained by the one-at-a-time execution of the requests in the order of their last
    transactions – up to the corner F3. -/

theorem before_append_single {α} (l : List α) (x a b : α) :
    Before (l ++ [x]) a b ↔ Before l a b ∨ (a ∈ l ∧ b = x) := by
  constructor
  · rintro ⟨l1, l2, l3, h⟩
    rcases List.eq_nil_or_concat l3 with rfl | ⟨l3', z, rfl⟩
    · have h' : l ++ [x] = (l1 ++ a :: l2) ++ [b] := by simpa using h
      obtain ⟨h1, h2⟩ := List.append_inj' h' rfl
      right
      refine ⟨by rw [h1]; simp, ?_⟩
      simpa using h2.symm
    · have h' : l ++ [x] = (l1 ++ a :: l2 ++ b :: l3') ++ [z] := by simpa using h
      obtain ⟨h1, _⟩ := List.append_inj' h' rfl
      exact .inl ⟨l1, l2, l3', h1⟩
  · rintro (⟨l1, l2, l3, h⟩ | ⟨ha, rfl⟩)
    · exact ⟨l1, l2, l3 ++ [x], by simp [h]⟩
    · obtain ⟨l1, l2, h⟩ := List.append_of_mem ha
      exact ⟨l1, l2, [], by simp [h]⟩

theorem before_filterMap {α β} (f : α → Option β) (l : List α) (x y : α) (x' y' : β)
    (hx : f x = some x') (hy : f y = some y') (h : Before l x y) : Before (l.filterMap f) x' y' := by
  obtain ⟨l1, l2, l3, rfl⟩ := h
  refine ⟨l1.filterMap f, l2.filterMap f, l3.filterMap f, ?_⟩
  simp [List.filterMap_append, hx, hy]

theorem before_of_mem_append {α} (l1 l2 : List α) (x y : α) (hx : x ∈ l1) (hy : y ∈ l2) : Before (l1 ++ l2) x y := by
  obtain ⟨a, b, rfl⟩ := List.append_of_mem hx
  obtain ⟨c, d, rfl⟩ := List.append_of_mem hy
  exact ⟨a, b ++ c, d, by simp⟩

theorem linOrder_append (l1 l2 : List Act) : linOrder (l1 ++ l2) = linOrder l1 ++ linOrder l2 :=
  List.filterMap_append

theorem mem_linOrder (l : List Act) (t : Nat) : t ∈ linOrder l ↔ Act.lin t ∈ l := by
  simp only [linOrder, List.mem_filterMap]
  constructor
  · rintro ⟨a, ha, h⟩
    cases a <;> simp at h
    subst h; exact ha
  · intro h; exact ⟨_, h, rfl⟩

theorem linOrder_nodup {l : List Act} (h : l.Nodup) : (linOrder l).Nodup :=
  h.filterMap _ fun a a' hne b hb b' hb' hbb => by
    cases a <;> cases hb
    cases a' <;> cases hb'
    exact hne (congrArg Act.lin hbb)

/-- What one step does to the thread that takes it: phase before and after, storage before and after, and what it
    adds to the log. This is the table of `mstep` with the thread lookup and the update of the lists taken out. -/
inductive PhStep (S : Sys) (e : Ev) (t : Nat) (a : AS) : Phase → Phase → AS → List Act → Prop
  | invoke : PhStep S e t a .idle .ready a [.invoke t]
  | toCreate {y : Phase} (hy : y = .ready ∨ y = .retry) (hn : needsCreate e a = true) : PhStep S e t a y .needCreate a []
  | lin {y : Phase} (hy : y = .ready ∨ y = .retry) (hn : needsCreate e a = false) :
      PhStep S e t a y (.answered (linStep S e a).1) (linStep S e a).2 [.lin t]
  | create : PhStep S e t a .needCreate .retry (createStep S e a) []
  | respond (o : Out) : PhStep S e t a (.answered o) (.finished o) a [.respond t]

inductive MStep (S : Sys) (evs : List Ev) (m : MState) (t : Nat) : MState → Prop
  | intro {e : Ev} {y x : Phase} {a' : AS} {new : List Act} (ev : evs[t]? = some e) (ph : m.ph[t]? = some y)
      (step : PhStep S e t m.a y x a' new) : MStep S evs m t ⟨a', m.ph.set t x, m.log ++ new⟩

theorem mstep_rel (S : Sys) (evs : List Ev) (m m' : MState) (t : Nat) (h : mstep S evs m t = some m') :
    MStep S evs m t m' := by
  unfold mstep at h
  cases he : evs[t]? with
  | none => simp [he] at h
  | some e =>
    cases hp : m.ph[t]? with
    | none => simp [he, hp] at h
    | some ph =>
      simp only [he, hp] at h
      cases ph with
      | idle => cases h; exact ⟨he, hp, .invoke⟩
      | ready | retry =>
        cases hn : needsCreate e m.a <;> simp only [hn, Bool.false_eq_true, ↓reduceIte] at h <;> cases h
        · exact ⟨he, hp, .lin (by simp) hn⟩
        · have := MStep.intro (S := S) he hp (.toCreate (by simp) hn); rwa [List.append_nil] at this
      | needCreate => cases h; have := MStep.intro (S := S) he hp .create; rwa [List.append_nil] at this
      | answered o => cases h; exact ⟨he, hp, .respond o⟩
      | finished o => simp at h

theorem mrun_induct (S : Sys) (evs : List Ev) (P : MState → Prop)
    (hstep : ∀ m t m', P m → MStep S evs m t m' → P m') (m : MState) (hm : P m) (sch : List Nat) :
    P (mrun S evs m sch) := by
  induction sch generalizing m with
  | nil => exact hm
  | cons t ts ih =>
    unfold mrun
    cases h : mstep S evs m t with
    | none => exact ih m hm
    | some m' => exact ih m' (hstep m t m' hm (mstep_rel S evs m m' t h))

theorem mrun_append (S : Sys) (evs : List Ev) (m : MState) (s1 s2 : List Nat) :
    mrun S evs m (s1 ++ s2) = mrun S evs (mrun S evs m s1) s2 := by
  induction s1 generalizing m with
  | nil => rfl
  | cons t ts ih =>
    simp only [List.cons_append, mrun]
    cases mstep S evs m t with
    | none => exact ih m
    | some m' => exact ih m'

/-- a step either is the last transaction of its request – from `ready` or `retry`, logged as `lin t` – or leaves the
    linearization order alone -/
theorem mstep_linOrder (S : Sys) (evs : List Ev) (m m' : MState) (t : Nat) (hs : MStep S evs m t m') :
    (m'.log = m.log ++ [.lin t] ∧ linOrder m'.log = linOrder m.log ++ [t] ∧
      ∃ ph, m.ph[t]? = some ph ∧ (ph = .ready ∨ ph = .retry)) ∨
    (m'.log ≠ m.log ++ [.lin t] ∧ linOrder m'.log = linOrder m.log) := by
  obtain @⟨e, y, x, a', new, he, hp, hst⟩ := hs
  have hne : ∀ {l : List Act}, linOrder l = [] → m.log ++ l ≠ m.log ++ [.lin t] ∧ linOrder (m.log ++ l) = linOrder m.log := by
    intro l hl
    refine ⟨fun h => ?_, by rw [linOrder_append, hl, List.append_nil]⟩
    rw [List.append_cancel_left h] at hl; cases hl
  cases hst with
  | lin hy => exact .inl ⟨rfl, by simp [linOrder], y, hp, hy⟩
  | _ => exact .inr (hne rfl)

/-- the log entries of thread `t` once it is in the given phase -/
def Phase.acts (t : Nat) : Phase → List Act
  | .idle => []
  | .ready | .needCreate | .retry => [.invoke t]
  | .answered _ => [.invoke t, .lin t]
  | .finished _ => [.invoke t, .lin t, .respond t]

def Act.thread : Act → Nat | .invoke t | .lin t | .respond t => t

theorem PhStep.acts {S : Sys} {e : Ev} {t : Nat} {a a' : AS} {y x : Phase} {new : List Act}
    (h : PhStep S e t a y x a' new) : x.acts t = y.acts t ++ new := by
  cases h with
  | toCreate hy | lin hy => rcases hy with rfl | rfl <;> rfl
  | _ => rfl

theorem Phase.acts_nodup (t : Nat) (p : Phase) : (p.acts t).Nodup := by cases p <;> simp [Phase.acts]

theorem Phase.acts_thread {t : Nat} {p : Phase} {a : Act} (h : a ∈ p.acts t) : a.thread = t := by
  cases p <;> simp [Phase.acts] at h <;> rcases h with rfl | rfl | rfl <;> rfl

theorem Phase.lin_mem_acts (t : Nat) (p : Phase) : Act.lin t ∈ p.acts t ↔ ∃ o, p = .answered o ∨ p = .finished o := by
  cases p <;> simp [Phase.acts]

theorem Phase.respond_mem_acts (t : Nat) (p : Phase) : Act.respond t ∈ p.acts t ↔ ∃ o, p = .finished o := by
  cases p <;> simp [Phase.acts]

theorem Phase.invoke_of_lin {t : Nat} {p : Phase} (h : Act.lin t ∈ p.acts t) : Act.invoke t ∈ p.acts t := by
  cases p <;> simp [Phase.acts] at h ⊢

/-- the phases against the log: a thread's `lin` and `respond` entries are in the log exactly when its phase says so;
    `rt`: an answer before an invocation puts the two linearizations in that order -/
structure PL (evs : List Ev) (m : MState) : Prop where
  len : m.ph.length = evs.length
  lin : ∀ t, Act.lin t ∈ m.log ↔ ∃ o, m.ph[t]? = some (.answered o) ∨ m.ph[t]? = some (.finished o)
  resp : ∀ t, Act.respond t ∈ m.log → ∃ o, m.ph[t]? = some (.finished o)
  rt : ∀ t u, Before m.log (.respond t) (.invoke u) → Act.lin u ∈ m.log → Before m.log (.lin t) (.lin u)
  nodup : (linOrder m.log).Nodup
  inv : ∀ t, Act.invoke t ∈ m.log → ∃ p, m.ph[t]? = some p

theorem pl_init (a : AS) (evs : List Ev) : PL evs (minit a evs) := by
  refine ⟨by simp [minit], fun t => ?_, fun t h => by simp [minit] at h, fun t u ⟨l1, l2, l3, h⟩ => by simp [minit] at h,
    by simp [minit, linOrder], fun t h => by simp [minit] at h⟩
  simp only [minit, List.not_mem_nil, false_iff, List.getElem?_map]
  rintro ⟨o, h | h⟩ <;> cases he : evs[t]? <;> simp [he] at h

theorem pl_step (S : Sys) (evs : List Ev) (m : MState) (t : Nat) (m' : MState) (h : PL evs m)
    (hs : MStep S evs m t m') : PL evs m' := by
  -- The log entries of thread `t` are those of its phase (`Phase.acts`), so what the step logs, `new`, is the
  -- difference between the entries of the new phase and of the old (`hacts`), and `acts_nodup` says that it was not
  -- logged before. Every field is then read off the entries for `u = t`; for `u ≠ t` the step logs nothing about `u`.
  obtain @⟨e, y, x, a', new, he, hp, hst⟩ := hs
  have hacts := hst.acts
  have hnd := Phase.acts_nodup t x
  rw [hacts, List.nodup_append] at hnd
  have hdisj : ∀ a ∈ y.acts t, ∀ b ∈ new, a ≠ b := hnd.2.2
  have hnewt : ∀ b ∈ new, b.thread = t := fun b hb =>
    Phase.acts_thread (p := x) (by rw [hacts]; exact List.mem_append_right _ hb)
  have hlin : Act.lin t ∈ m.log ↔ Act.lin t ∈ y.acts t := by
    rw [h.lin t, hp, Phase.lin_mem_acts]; simp only [Option.some.injEq]
  have hph : ∀ u, (m.ph.set t x)[u]? = if u = t then some x else m.ph[u]? := fun u => set_get hp
  -- `lin`, `resp`, `rt`, `nodup`, `inv`
  refine ⟨by simp [h.len], fun u => ?_, fun u hu => ?_, ?_, ?_, fun u hu => ?_⟩
  · rw [hph, List.mem_append]
    split
    · next hut =>
      subst hut
      simp only [Option.some.injEq]
      rw [← Phase.lin_mem_acts, hacts, List.mem_append, hlin]
    · next hut => rw [h.lin u]; exact or_iff_left fun hb => hut (hnewt _ hb)
  · rw [hph]
    split
    · next hut =>
      subst hut
      simp only [Option.some.injEq]
      rw [← Phase.respond_mem_acts, hacts, List.mem_append]
      refine (List.mem_append.1 hu).imp_left fun hu1 => ?_
      obtain ⟨o, ho⟩ := h.resp u hu1
      exact (Phase.respond_mem_acts u y).2 ⟨o, Option.some.inj (hp ▸ ho)⟩
    · next hut => exact h.resp u ((List.mem_append.1 hu).resolve_right fun hb => hut (hnewt _ hb))
  · -- only a step that logs something matters, and it logs one entry
    have hone : new = [] ∨ ∃ b, new = [b] := by
      cases hst with
      | toCreate | create => exact .inl rfl
      | invoke | lin | respond => exact .inr ⟨_, rfl⟩
    rcases hone with rfl | ⟨b, rfl⟩
    · rw [List.append_nil]; exact h.rt
    · intro r u hb hl
      rw [before_append_single] at hb ⊢
      rw [List.mem_append, List.mem_singleton] at hl
      rcases hb with hb | ⟨hr, hbu⟩
      · rcases hl with hl | hl
        · exact .inl (h.rt r u hb hl)
        · -- `r` has been answered, so it has been linearized
          obtain ⟨l1, l2, l3, hlog⟩ := hb
          obtain ⟨o, ho⟩ := h.resp r (by rw [hlog]; simp)
          exact .inr ⟨(h.lin r).2 ⟨o, .inr ho⟩, hl⟩
      · -- `u` is invoked by this step, so it has not been linearized
        subst hbu
        rcases hl with hl | hl
        · have hut : u = t := hnewt _ (List.mem_singleton_self _)
          subst hut
          exact absurd rfl (hdisj _ (Phase.invoke_of_lin (hlin.1 hl)) _ (List.mem_singleton_self _))
        · cases hl
  · rw [linOrder_append, List.nodup_append]
    refine ⟨h.nodup, linOrder_nodup hnd.2.1, fun a ha b hb hab => ?_⟩
    subst hab
    have hb' := (mem_linOrder _ _).1 hb
    have hat : a = t := hnewt _ hb'
    subst hat
    exact hdisj _ (hlin.1 ((mem_linOrder _ _).1 ha)) _ hb' rfl
  · rw [hph]
    split
    · exact ⟨x, rfl⟩
    · next hut =>
      exact h.inv u ((List.mem_append.1 hu).resolve_right fun hb => hut (hnewt _ hb))

/-- the request whose final transaction a thread executes -/
def linEv : Ev → Ev
  | .av c p seg n now => .avLib c p seg n now
  | e => e

theorem linStep_eq (S : Sys) (e : Ev) (a : AS) : linStep S e a = asStep S (linEv e) a := by
  cases e <;> rfl

theorem linEv_client (e : Ev) : (linEv e).client = e.client := by cases e <;> rfl

theorem addedId_linEv (e : Ev) (o : Out) : addedId (linEv e) o = addedId e o := by
  cases e with
  | av => cases o <;> rfl
  | _ => rfl

theorem seenAfter_linEv (e : Ev) (seen : List Uuid) : seenAfter (linEv e) seen = seenAfter e seen := by
  cases e <;> rfl

theorem freshEv_linEv (e : Ev) (seen : List Uuid) : FreshEv (linEv e) seen ↔ FreshEv e seen := by
  cases e <;> exact Iff.rfl

theorem needsCreate_iff (e : Ev) (a : AS) (c : Uuid) (hc : e.client = some c) :
    needsCreate e a = true ↔ e.isAv = true ∧ (a.st c).client = none := by
  cases e <;> cases hc <;> simp [needsCreate, Ev.isAv]

theorem cstep_linEv_same (S : Sys) (e : Ev) (x : CSt) (h : e.isAv = true → x.client ≠ none) :
    cstep S (linEv e) x = cstep S e x := by
  cases e with
  | av c p seg n now =>
    obtain ⟨cl, hc⟩ := Option.ne_none_iff_exists'.mp (h rfl)
    simp only [linEv, cstep, cCreate_some x cl hc]
  | _ => rfl

theorem respond_404 : respond .notFound = respond .noSuchClient ∧ respond .noSnap = respond .noSuchClient := ⟨rfl, rfl⟩

/-- on the empty record left by a creation transaction, vs on no record at all -/
theorem cstep_created (S : Sys) (e : Ev) (he : e.isHttp = true) :
    (cstep S (linEv e) (cCreated {}) = cstep S e {}) ∨
    ((cstep S (linEv e) (cCreated {})).2 = cCreated {} ∧ (cstep S e {}).2 = {} ∧ e.isAv = false ∧
      sameRespF3 e (cstep S (linEv e) (cCreated {})).1 (cstep S e {}).1) := by
  cases e with
  | av c p seg n now => left; rfl
  | gcv c p =>
    right
    refine ⟨rfl, rfl, rfl, .inl ?_⟩
    simp [sameResp, linEv, cstep, cGetChild, cCreated, respond]
  | «as» c v d now =>
    right
    have h1 : cstep S (linEv (.as c v d now)) (cCreated {}) = (.asDone false, cCreated {}) := by
      simp [linEv, cstep, cAddSnapshot, cCreated, walkBack_nil]
    rw [h1]
    exact ⟨rfl, rfl, rfl, .inr ⟨trivial, rfl, rfl⟩⟩
  | gs c =>
    right
    refine ⟨rfl, rfl, rfl, .inl ?_⟩
    simp [sameResp, linEv, cstep, cGetSnapshot, cCreated, respond]
  | avLib | create | reopen => simp [Ev.isHttp] at he

theorem reqMix_mem {evs : List Ev} (h : ReqMix evs) (e : Ev) (he : e ∈ evs) : e.isHttp = true ∨ e.isLib = true :=
  h.imp (· e he) (· e he)

theorem isHttp_client (e : Ev) (h : e.isHttp = true) : ∃ c, e.client = some c := by
  cases e <;> first | exact ⟨_, rfl⟩ | cases h

theorem isLib_client (e : Ev) (h : e.isLib = true) : ∃ c, e.client = some c := by
  cases e <;> first | exact ⟨_, rfl⟩ | cases h

theorem reqMix_client {evs : List Ev} (h : ReqMix evs) (e : Ev) (he : e ∈ evs) : ∃ c, e.client = some c :=
  (reqMix_mem h e he).elim (isHttp_client e) (isLib_client e)

theorem reqMix_av {evs : List Ev} (h : ReqMix evs) (e' : Ev) (he' : e' ∈ evs) (hav : e'.isAv = true) :
    ∀ e ∈ evs, e.isHttp = true := by
  rcases h with h | h
  · exact h
  · have := h e' he'
    cases e' <;> simp [Ev.isAv, Ev.isLib] at hav this

theorem addedId_nonAv (e : Ev) (o : Out) (h1 : e.isHttp = true) (h2 : e.isAv = false) : addedId e o = [] := by
  cases e <;> simp [Ev.isHttp, Ev.isAv] at h1 h2 <;> rfl

theorem createStep_eq (S : Sys) {e : Ev} {c : Uuid} (hc : e.client = some c) (a : AS) :
    createStep S e a = ⟨upd a.st c (cCreate (a.st c)), a.ids⟩ := by
  unfold createStep
  rw [hc]
  simp only [asStep, Ev.client, cstep, addedId, List.append_nil]

/-- some request for client `c` has run its creation transaction and not yet its second attempt -/
def Retrying (evs : List Ev) (ph : List Phase) (c : Uuid) : Prop :=
  ∃ (t : Nat) (e : Ev), evs[t]? = some e ∧ e.client = some c ∧ ph[t]? = some Phase.retry

theorem Retrying.set {evs : List Ev} {ph : List Phase} {c : Uuid} {t : Nat} {x y : Phase} {e : Ev}
    (h : Retrying evs ph c) (hy : ph[t]? = some y) (he : evs[t]? = some e)
    (hyr : y = .retry → e.client = some c → False) : Retrying evs (ph.set t x) c := by
  obtain ⟨t0, e0, he0, hc0, hp0⟩ := h
  refine ⟨t0, e0, he0, hc0, ?_⟩
  rw [set_get hy, if_neg, hp0]
  rintro rfl
  rw [he] at he0
  cases he0
  rw [hy] at hp0
  exact hyr (Option.some.inj hp0) hc0

theorem Retrying.of_set {evs : List Ev} {ph : List Phase} {c : Uuid} {t : Nat} {x y : Phase} {e : Ev}
    (h : Retrying evs (ph.set t x) c) (hy : ph[t]? = some y) (he : evs[t]? = some e)
    (hxr : x = .retry → e.client = some c → False) : Retrying evs ph c := by
  obtain ⟨t0, e0, he0, hc0, hp0⟩ := h
  refine ⟨t0, e0, he0, hc0, ?_⟩
  rw [set_get hy] at hp0
  split at hp0
  · next h0 =>
    subst h0
    rw [he] at he0
    cases he0
    exact (hxr (Option.some.inj hp0) hc0).elim
  · exact hp0

/-- only HTTP AddVersions are on the way through the creation transaction -/
def AvOnly (evs : List Ev) (ph : List Phase) : Prop :=
  ∀ (t : Nat) (e : Ev), evs[t]? = some e → (ph[t]? = some Phase.retry ∨ ph[t]? = some Phase.needCreate) → e.isAv = true

theorem AvOnly.set {evs : List Ev} {ph : List Phase} {t : Nat} {x y : Phase} {e : Ev} (h : AvOnly evs ph)
    (hy : ph[t]? = some y) (he : evs[t]? = some e) (hx : x = .retry ∨ x = .needCreate → e.isAv = true) :
    AvOnly evs (ph.set t x) := by
  intro u e' he' hp'
  rw [set_get hy] at hp'
  split at hp'
  · next hut =>
    subst hut
    rw [he] at he'
    cases he'
    exact hx (by simpa using hp')
  · exact h u e' he' hp'

/-- The machine's storage equals the storage of the one-at-a-time run of the requests linearized so
    far, except that a client may already exist as an empty record where the one-at-a-time run has
    none – only while the AddVersion that created it is still on its way to its second attempt. -/
structure LinRel (evs : List Ev) (m : MState) (b : AS) : Prop where
  ids : m.a.ids = b.ids
  -- the last conjunct is `Retrying evs m.ph c`
  st : ∀ c, m.a.st c = b.st c ∨
        (b.st c = {} ∧ m.a.st c = cCreated {} ∧
          ∃ (t : Nat) (e : Ev), evs[t]? = some e ∧ e.client = some c ∧ m.ph[t]? = some Phase.retry)
  -- the one-at-a-time run has no record without a client: where it has no client the record is `{}`, which is what
  -- `cstep_created` speaks of, and what makes a creation transaction leave exactly `cCreated {}`
  nc : ∀ c, (b.st c).client = none → b.st c = {}
  -- a request at `retry` finds its client (so it does not go back to `needCreate`); word for word `MFacts.retry`
  retry : ∀ (t : Nat) (e : Ev) (c : Uuid), evs[t]? = some e → e.client = some c → m.ph[t]? = some Phase.retry →
    (m.a.st c).client ≠ none
  -- `AvOnly evs m.ph`: with `ReqMix`, a request on its way through creation makes all requests HTTP ones (`reqMix_av`),
  -- as `cstep_created` asks; and a request other than that AddVersion leaves `retry` phases alone
  isAv : ∀ (t : Nat) (e : Ev), evs[t]? = some e → (m.ph[t]? = some Phase.retry ∨ m.ph[t]? = some Phase.needCreate) →
    e.isAv = true

theorem LinRel.retry' {evs : List Ev} {m : MState} {b : AS} (h : LinRel evs m b) (c : Uuid) (hR : Retrying evs m.ph c) :
    (m.a.st c).client ≠ none :=
  let ⟨t, e, he, hc, hp⟩ := hR
  h.retry t e c he hc hp

/-- a step that changes only the phase of `t`, neither from nor to `retry` -/
theorem linrel_phase {evs : List Ev} {m : MState} {b : AS} (h : LinRel evs m b) {t : Nat} {x y : Phase} {e : Ev}
    (log' : List Act) (hy : m.ph[t]? = some y) (he : evs[t]? = some e) (hyr : y ≠ .retry) (hxr : x ≠ .retry)
    (hx : x = .needCreate → e.isAv = true) :
    LinRel evs ⟨m.a, m.ph.set t x, log'⟩ b :=
  ⟨h.ids, fun c => (h.st c).imp_right fun ⟨h1, h2, hR⟩ => ⟨h1, h2, Retrying.set hR hy he fun h' _ => hyr h'⟩, h.nc,
    fun u e' c he' hc' hp' => h.retry' c (Retrying.of_set ⟨u, e', he', hc', hp'⟩ hy he fun h' _ => hxr h'),
    AvOnly.set h.isAv hy he fun h' => h'.elim (fun h' => absurd h' hxr) hx⟩

theorem linrel_step (S : Sys) (evs : List Ev) (hmix : ReqMix evs) (m : MState) (t : Nat) (m' : MState) (b : AS)
    (h : LinRel evs m b) (hs : MStep S evs m t m') :
    (linOrder m'.log = linOrder m.log ∧ LinRel evs m' b) ∨
    (∃ e, evs[t]? = some e ∧ linOrder m'.log = linOrder m.log ++ [t] ∧ LinRel evs m' (asStep S e b).2 ∧
      ∃ o, m'.ph[t]? = some (.answered o) ∧ RespRel evs e o (asStep S e b).1) := by
  obtain @⟨e, y, x, a', new, he, hp, hst⟩ := hs
  obtain ⟨c, hc⟩ := reqMix_client hmix e (List.mem_of_getElem? he)
  -- `t` is a thread of client `c`: for any other client nothing changes
  have hoth : ∀ (x : Phase) {d}, d ≠ c → (Retrying evs (m.ph.set t x) d ↔ Retrying evs m.ph d) := fun x _ hd =>
    ⟨fun hR => hR.of_set hp he fun _ h' => hd (Option.some.inj (hc.symm.trans h')).symm,
     fun hR => hR.set hp he fun _ h' => hd (Option.some.inj (hc.symm.trans h')).symm⟩
  cases hst with
  | invoke | respond => exact .inl ⟨by simp [linOrder], linrel_phase h _ hp he (by simp) (by simp) (by simp)⟩
  | toCreate hy hn =>
    refine .inl ⟨by rw [List.append_nil], ?_⟩
    rcases hy with rfl | rfl
    · exact linrel_phase h _ hp he (by simp) (by simp) fun _ => ((needsCreate_iff e m.a c hc).1 hn).1
    · exact absurd ((needsCreate_iff e m.a c hc).1 hn).2 (h.retry t e c he hc hp)
  | create =>
    refine .inl ⟨by rw [List.append_nil], ?_⟩
    have hR : Retrying evs (m.ph.set t .retry) c := ⟨t, e, he, hc, by rw [set_get hp, if_pos rfl]⟩
    rw [createStep_eq S hc]
    refine ⟨h.ids, fun d => ?_, h.nc, fun u e' d he' hc' hp' => ?_, AvOnly.set h.isAv hp he fun _ => h.isAv t e he (.inr hp)⟩
    · dsimp only
      by_cases hd : d = c
      · subst hd
        rw [upd_same]
        rcases h.st d with h1 | ⟨h1, h2, _⟩
        · cases hcl : (b.st d).client with
          | none => exact .inr ⟨h.nc d hcl, by rw [h1, h.nc d hcl, cCreate_eq _ rfl], hR⟩
          | some cl => exact .inl (by rw [h1, cCreate_some _ cl hcl])
        · exact .inr ⟨h1, by rw [h2]; rfl, hR⟩
      · rw [upd_other _ _ _ _ hd]
        exact (h.st d).imp_right fun ⟨h1, h2, hR'⟩ => ⟨h1, h2, (hoth _ hd).2 hR'⟩
    · dsimp only
      by_cases hd : d = c
      · subst hd; rw [upd_same]; exact cCreate_client _
      · rw [upd_other _ _ _ _ hd]; exact h.retry' d ((hoth _ hd).1 ⟨u, e', he', hc', hp'⟩)
  | lin hy hn =>
    refine .inr ⟨e, he, by simp [linOrder], ?_⟩
    -- what the two sides compute on the record of `c`
    have hm : linStep S e m.a = ((cstep S (linEv e) (m.a.st c)).1,
        ⟨upd m.a.st c (cstep S (linEv e) (m.a.st c)).2, m.a.ids ++ addedId e (cstep S (linEv e) (m.a.st c)).1⟩) := by
      rw [linStep_eq]; simp only [asStep, linEv_client, hc, addedId_linEv]
    have hb : asStep S e b =
        ((cstep S e (b.st c)).1, ⟨upd b.st c (cstep S e (b.st c)).2, b.ids ++ addedId e (cstep S e (b.st c)).1⟩) := by
      simp only [asStep, hc]
    have hncr := nc_cstep S e _ (h.nc c)
    have hcr := cstep_client_some S (linEv e) (m.a.st c)
    -- either they compute the same, or the machine has the empty record and the one-at-a-time run has none (F3)
    have key : cstep S (linEv e) (m.a.st c) = cstep S e (b.st c) ∨
        (Retrying evs m.ph c ∧ (cstep S e (b.st c)).2 = {} ∧ (cstep S (linEv e) (m.a.st c)).2 = cCreated {} ∧
          e.isHttp = true ∧ e.isAv = false ∧ sameRespF3 e (cstep S (linEv e) (m.a.st c)).1 (cstep S e (b.st c)).1) := by
      rcases h.st c with h1 | ⟨h1, h2, t0, e0, he0, hc0, hp0⟩
      · rw [h1]; exact .inl (cstep_linEv_same S e _ fun hav hcl =>
          Bool.false_ne_true (hn ▸ (needsCreate_iff e m.a c hc).2 ⟨hav, h1 ▸ hcl⟩))
      · have hehttp := reqMix_av hmix e0 (List.mem_of_getElem? he0) (h.isAv t0 e0 he0 (.inl hp0)) e (List.mem_of_getElem? he)
        rw [h1, h2]
        exact (cstep_created S e hehttp).imp_right fun ⟨hs1, hs2, hnav, hresp⟩ =>
          ⟨⟨t0, e0, he0, hc0, hp0⟩, hs2, hs1, hehttp, hnav, hresp⟩
    rw [hm, hb]
    -- the two results get names, so that `key`'s equation can be substituted
    generalize cstep S (linEv e) (m.a.st c) = r at hcr key
    generalize cstep S e (b.st c) = r' at hncr key
    -- `ids`, `st`, `nc` (from `hncr`), `retry` (from `hcr`); last, `RespRel`
    refine ⟨⟨?_, fun d => ?_, fun d => ?_, fun u e' d he' hc' hp' => ?_, AvOnly.set h.isAv hp he (by simp)⟩, _,
      by rw [set_get hp, if_pos rfl], ?_⟩
    · rcases key with rfl | ⟨_, _, _, hht, hnav, _⟩
      · rw [h.ids]
      · rw [addedId_nonAv e _ hht hnav, addedId_nonAv e _ hht hnav, h.ids]
    · dsimp only
      by_cases hd : d = c
      · subst hd
        rw [upd_same, upd_same]
        rcases key with rfl | ⟨hR, h1, h2, _, hnav, _⟩
        · exact .inl rfl
        · refine .inr ⟨h1, h2, hR.set hp he fun hy' _ => ?_⟩
          rw [h.isAv t e he (.inl (hy' ▸ hp))] at hnav; cases hnav
      · rw [upd_other _ _ _ _ hd, upd_other _ _ _ _ hd]
        exact (h.st d).imp_right fun ⟨h1, h2, hR'⟩ => ⟨h1, h2, (hoth _ hd).2 hR'⟩
    · dsimp only
      by_cases hd : d = c
      · subst hd; rw [upd_same]; exact hncr
      · rw [upd_other _ _ _ _ hd]; exact h.nc d
    · dsimp only
      have hR := Retrying.of_set ⟨u, e', he', hc', hp'⟩ hp he fun h' _ => by cases h'
      by_cases hd : d = c
      · subst hd; rw [upd_same]; exact hcr (h.retry' d hR)
      · rw [upd_other _ _ _ _ hd]; exact h.retry' d hR
    · rcases key with rfl | ⟨⟨t0, e0, he0, _, hp0⟩, _, _, _, _, hresp⟩
      · exact .inl rfl
      · exact .inr ⟨⟨e0, List.mem_of_getElem? he0, h.isAv t0 e0 he0 (.inl hp0)⟩, hresp⟩

theorem seqRun_snoc (S : Sys) (evs : List Ev) (l : List Nat) (t : Nat) (e : Ev) (a : AS) (he : evs[t]? = some e) :
    seqRun S evs (l ++ [t]) a =
      ((asStep S e (seqRun S evs l a).1).2, (seqRun S evs l a).2 ++ [(t, (asStep S e (seqRun S evs l a).1).1)]) := by
  induction l generalizing a with
  | nil => simp [seqRun, he]
  | cons u us ih =>
    simp only [List.cons_append, seqRun]
    cases hu : evs[u]? with
    | none => exact ih a
    | some e' => simp only; rw [ih]; simp

theorem seqRun_fst (S : Sys) (evs : List Ev) (l : List Nat) (a : AS) (h : ∀ t ∈ l, t < evs.length) :
    (seqRun S evs l a).2.map Prod.fst = l := by
  induction l generalizing a with
  | nil => rfl
  | cons u us ih =>
    have hu : u < evs.length := h u (by simp)
    simp only [seqRun, List.getElem?_eq_getElem hu, List.map_cons]
    rw [ih _ (fun t ht => h t (by simp [ht]))]

/-- the requests of an order of thread numbers -/
def evsOf (evs : List Ev) (l : List Nat) : List Ev := l.filterMap (evs[·]?)

theorem evsOf_snoc (evs : List Ev) (l : List Nat) (t : Nat) (e : Ev) (he : evs[t]? = some e) :
    evsOf evs (l ++ [t]) = evsOf evs l ++ [e] := by
  simp [evsOf, List.filterMap_append, he]

theorem evsOf_cons (evs : List Ev) (l : List Nat) (t : Nat) (e : Ev) (he : evs[t]? = some e) :
    evsOf evs (t :: l) = e :: evsOf evs l := by
  simp [evsOf, he]

/-- `seqRun` is the history-level run `asRunH` of the requests in that order: same final storage, same answers -/
theorem seqRun_asRunH (S : Sys) (evs : List Ev) (l : List Nat) (a : AS) :
    (seqRun S evs l a).1 = (asRunH S (evsOf evs l) a).2 ∧ (seqRun S evs l a).2.map Prod.snd = (asRunH S (evsOf evs l) a).1 := by
  induction l generalizing a with
  | nil => exact ⟨rfl, rfl⟩
  | cons u us ih =>
    unfold evsOf seqRun
    cases he : evs[u]? with
    | none => rw [List.filterMap_cons_none he]; exact ih a
    | some e =>
      rw [List.filterMap_cons_some he]
      exact ⟨(ih (asStep S e a).2).1, congrArg (_ :: ·) (ih (asStep S e a).2).2⟩

theorem PhStep.out {S : Sys} {e : Ev} {t : Nat} {a a' : AS} {y x : Phase} {new : List Act}
    (h : PhStep S e t a y x a' new) (o : Out) (ho : y.out? = some o) : x.out? = some o := by
  cases h with
  | respond => exact ho
  | toCreate hy | lin hy => rcases hy with rfl | rfl <;> cases ho
  | _ => cases ho

/-- the machine's state is explained by the one-at-a-time run (`seqRun`) of the requests linearized so far, in that order -/
structure LinState (S : Sys) (evs : List Ev) (a0 : AS) (m : MState) : Prop where
  pl : PL evs m
  sim : ∃ b outs, seqRun S evs (linOrder m.log) a0 = (b, outs) ∧ LinRel evs m b ∧
    ∀ t o', (t, o') ∈ outs → ∃ e o, evs[t]? = some e ∧ (m.ph[t]?).bind Phase.out? = some o ∧ RespRel evs e o o'

theorem linstate_init (S : Sys) (evs : List Ev) (a0 : AS) (hnc : ∀ c, (a0.st c).client = none → a0.st c = {}) :
    LinState S evs a0 (minit a0 evs) := by
  have hph : ∀ (t : Nat) (p : Phase), (minit a0 evs).ph[t]? = some p → p = .idle := by
    intro t p hp
    simp only [minit, List.getElem?_map] at hp
    cases he : evs[t]? <;> simp [he] at hp
    exact hp.symm
  refine ⟨pl_init a0 evs, a0, [], rfl, ⟨rfl, fun c => .inl rfl, hnc, ?_, ?_⟩, by simp⟩
  · intro t e c _ _ hp; cases hph t _ hp
  · rintro t e _ (hp | hp) <;> cases hph t _ hp

theorem linstate_step (S : Sys) (evs : List Ev) (hmix : ReqMix evs) (a0 : AS) (m : MState) (t : Nat) (m' : MState)
    (h : LinState S evs a0 m) (hs : MStep S evs m t m') : LinState S evs a0 m' := by
  refine ⟨pl_step S evs m t m' h.pl hs, ?_⟩
  obtain ⟨b, outs, hseq, hrel, houts⟩ := h.sim
  -- a response, once computed, stays
  have hout : ∀ (u : Nat) (o : Out), (m.ph[u]?).bind Phase.out? = some o → (m'.ph[u]?).bind Phase.out? = some o := by
    obtain @⟨e, y, x, a', new, he, hp, hst⟩ := hs
    intro u o ho
    rw [set_get hp]
    split
    · next hut => subst hut; rw [hp] at ho; exact hst.out o ho
    · exact ho
  have hkeep : ∀ u o', (u, o') ∈ outs →
      ∃ e o, evs[u]? = some e ∧ (m'.ph[u]?).bind Phase.out? = some o ∧ RespRel evs e o o' := fun u o' hu =>
    let ⟨e, o, he, ho, hr⟩ := houts u o' hu
    ⟨e, o, he, hout u o ho, hr⟩
  rcases linrel_step S evs hmix m t m' b hrel hs with ⟨hlog, hrel'⟩ | ⟨e, he, hlog, hrel', o, hph, hresp⟩
  · exact ⟨b, outs, by rw [hlog]; exact hseq, hrel', hkeep⟩
  · refine ⟨_, _, by rw [hlog, seqRun_snoc S evs _ t e a0 he, hseq], hrel', fun u o' hu => ?_⟩
    rw [List.mem_append, List.mem_singleton, Prod.mk.injEq] at hu
    rcases hu with hu | ⟨rfl, rfl⟩
    · exact hkeep u o' hu
    · exact ⟨e, o, he, by rw [hph]; rfl, hresp⟩

theorem linstate_run (S : Sys) (evs : List Ev) (hmix : ReqMix evs) (a0 : AS)
    (hnc : ∀ c, (a0.st c).client = none → a0.st c = {}) (sch : List Nat) :
    LinState S evs a0 (mrun S evs (minit a0 evs) sch) :=
  mrun_induct S evs (LinState S evs a0) (fun m t m' hm hs => linstate_step S evs hmix a0 m t m' hm hs) _
    (linstate_init S evs a0 hnc) sch

theorem mrun_log (S : Sys) (evs : List Ev) (m : MState) (sch : List Nat) : ∃ suf, (mrun S evs m sch).log = m.log ++ suf :=
  mrun_induct S evs (fun m' => ∃ suf, m'.log = m.log ++ suf)
    (fun _ _ _ ⟨s1, h1⟩ hs => by obtain @⟨_, _, _, _, new, _, _, _⟩ := hs; exact ⟨s1 ++ new, by simp [h1]⟩)
    m ⟨[], (List.append_nil _).symm⟩ sch

/-- **Linearizability of the transaction-atomic machine** (request sets that are all-HTTP or all-library, `ReqMix`;
    any number of requests, every schedule): once every request has been answered, the order of the requests'
    last transactions is a permutation of the requests that respects real-time order, and running
    the requests one at a time in that order leaves exactly the machine's final storage and gives
    every request the response it got – up to `RespRel` (equal, or, if an HTTP AddVersion is among the requests,
    indistinguishable for an HTTP client modulo F3). -/
theorem machine_linearizable (S : Sys) (evs : List Ev) (hmix : ReqMix evs) (a0 : AS)
    (hnc : ∀ c, (a0.st c).client = none → a0.st c = {}) (sch : List Nat)
    (hfin : allFinished (mrun S evs (minit a0 evs) sch)) :
    let m := mrun S evs (minit a0 evs) sch
    let order := linOrder m.log
    order.Perm (List.range evs.length) ∧
      (∀ t u, Before m.log (.respond t) (.invoke u) → Before order t u) ∧
      (∀ c, m.a.st c = (seqRun S evs order a0).1.st c) ∧ m.a.ids = (seqRun S evs order a0).1.ids ∧
      (seqRun S evs order a0).2.map Prod.fst = order ∧
      ∀ t o', (t, o') ∈ (seqRun S evs order a0).2 →
        ∃ e o, evs[t]? = some e ∧ m.ph[t]? = some (.finished o) ∧ RespRel evs e o o' := by
  intro m order
  obtain ⟨hpl, b, outs, hseq, hrel, houts⟩ := linstate_run S evs hmix a0 hnc sch
  have hfin' : ∀ (t : Nat) (p : Phase), m.ph[t]? = some p → ∃ o, p = Phase.finished o :=
    fun t p hp => hfin p (List.mem_of_getElem? hp)
  have hmem : ∀ t, t ∈ order ↔ t < evs.length := by
    intro t
    rw [mem_linOrder, hpl.lin t, ← hpl.len]
    constructor
    · rintro ⟨o, ho | ho⟩ <;> exact (List.getElem?_eq_some_iff.mp ho).1
    · intro ht
      obtain ⟨o, ho⟩ := hfin' t _ (List.getElem?_eq_getElem ht)
      exact ⟨o, .inr (by rw [List.getElem?_eq_getElem ht, ho])⟩
  have hfst := seqRun_fst S evs order a0 fun t ht => (hmem t).1 ht
  rw [hseq] at hfst ⊢
  refine ⟨?_, fun t u hb => ?_, fun c => ?_, hrel.ids, hfst, fun t o' ht => ?_⟩
  · exact (List.perm_ext_iff_of_nodup hpl.nodup List.nodup_range).2 fun t => by rw [hmem t, List.mem_range]
  · have hu : Act.invoke u ∈ m.log := by
      obtain ⟨l1, l2, l3, hl⟩ := hb
      rw [hl]; simp
    obtain ⟨p, hp⟩ := hpl.inv u hu
    obtain ⟨o, rfl⟩ := hfin' u p hp
    exact before_filterMap _ m.log _ _ t u rfl rfl (hpl.rt t u hb ((hpl.lin u).2 ⟨o, .inr hp⟩))
  · rcases hrel.st c with h1 | ⟨_, _, t0, e0, _, _, hp0⟩
    · exact h1
    · obtain ⟨o, ho⟩ := hfin' t0 _ hp0; cases ho
  · obtain ⟨e, o, he, ho, hr⟩ := houts t o' ht
    cases hp : m.ph[t]? with
    | none => rw [hp] at ho; cases ho
    | some p =>
      obtain ⟨o2, rfl⟩ := hfin' t p hp
      rw [hp] at ho
      cases ho
      exact ⟨e, o, he, rfl, hr⟩

end Tcs
