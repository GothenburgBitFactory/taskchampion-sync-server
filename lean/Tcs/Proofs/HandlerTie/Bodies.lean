import Tcs.Generated.HandlerSrc
namespace Tcs

theorem handlerSrc_addVersionBody (m : Nat) (chunks : List Bytes) (body : Bytes) :
    HandlerSrc.addVersionBody m chunks body = assemble m chunks body := by
  induction chunks generalizing body with
  | nil => rfl
  | cons ch rest ih => simp only [HandlerSrc.addVersionBody, assemble, ih]

theorem handlerSrc_addSnapshotBody (m : Nat) (chunks : List Bytes) (body : Bytes) :
    HandlerSrc.addSnapshotBody m chunks body = assemble m chunks body := by
  induction chunks generalizing body with
  | nil => rfl
  | cons ch rest ih => simp only [HandlerSrc.addSnapshotBody, assemble, ih]

end Tcs
