import Tcs.Generated.HandlerSrc
namespace Tcs

/-- `WebServer::config` registers one scope at the root, wrapped in the default-headers middleware and in nothing else,
    which holds the index route and the four protocol services; outside it only a default service, which answers 404
    with the same header (since the `fix:` commit 885554f) to a request no route matches (a request target that is not
    a path, `OPTIONS *`). The theorem
    states that the chain of calls translated from `config`, the list of services and the index route are exactly these:
    so every response is produced under the wrapper, which is why `serve` is `route` followed by the header (C20).
    `"DefaultHeaders"` stands for a `middleware::DefaultHeaders::new()` with `.add`s only; its header list is tied by
    `handlerSrc_routes`; arguments hoisted into `let` bindings are inlined by the translator. -/
theorem handlerSrc_scope :
    HandlerSrc.scopeChain =
      [("scope", ""), ("app_data", "web::Data::new(self.server_state.clone())"),
       ("wrap", "DefaultHeaders"),
       ("service", "index"), ("service", "api_scope()"),
       ("default_service", "404:Cache-Control=no-store, max-age=0"), ("around", "cfg.service(|);")] ∧
    HandlerSrc.apiServices = ["get_child_version::service", "add_version::service", "get_snapshot::service", "add_snapshot::service"] ∧
    HandlerSrc.indexRoute = ("GET", "/") := ⟨rfl, rfl, rfl⟩

end Tcs
