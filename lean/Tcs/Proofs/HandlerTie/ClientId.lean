import Tcs.Generated.HandlerSrc
namespace Tcs

theorem handlerSrc_clientIdHeader (allow : Option (List Uuid)) (r : Request) :
    HandlerSrc.clientIdHeader allow r = clientIdHeader allow r := by
  unfold HandlerSrc.clientIdHeader clientIdHeader
  cases header r "x-client-id" with
  | none => rfl
  | some v =>
    simp only []
    cases toStr v with
    | none => rfl
    | some s =>
      simp only [Option.bind_some]
      cases parseUuid s with
      | none => rfl
      | some c =>
        cases allow with
        | none => rfl
        | some l =>
          by_cases hc : c ∈ l <;> simp [hc]

end Tcs
