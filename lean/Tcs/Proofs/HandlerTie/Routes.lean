import Tcs.Generated.HandlerSrc
namespace Tcs

/-- the route table and the default header are the ones the model's `route` (methods and paths) and `serve` (the header
    on every response) were written for -/
theorem handlerSrc_routes :
    HandlerSrc.routes =
      [("GET", "/v1/client/get-child-version/{parent_version_id}", "getChildVersion"),
       ("POST", "/v1/client/add-version/{parent_version_id}", "addVersion"),
       ("POST", "/v1/client/add-snapshot/{version_id}", "addSnapshot"),
       ("GET", "/v1/client/snapshot", "getSnapshot")] ∧
    HandlerSrc.defaultHeaders = [("Cache-Control", CACHE_CONTROL)] := ⟨rfl, rfl⟩

end Tcs
