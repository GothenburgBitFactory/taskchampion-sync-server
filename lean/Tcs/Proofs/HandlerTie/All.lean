import Tcs.Proofs.HandlerTie.ClientId
import Tcs.Proofs.HandlerTie.GetChild
import Tcs.Proofs.HandlerTie.GetSnap
import Tcs.Proofs.HandlerTie.AddVersionExact
import Tcs.Proofs.HandlerTie.AddSnapshot
import Tcs.Proofs.HandlerTie.Routes
namespace Tcs

/-! **The tie between `server/src/api/*.rs`, `server/src/lib.rs` and the handler model.** `HandlerSrc.*` are GENERATED from
    /repo's current source by `tools/handlers2lean.py`; one module per handler or table, so that a change to one leaves
    the ties of the others standing. This module puts the step-for-step ties together: the dispatch of the model over
    the generated handlers is the model's `route`, for every configuration and request. It needs the validation steps in
    the order of the model (`AddVersionExact`, `AddSnapshot`), so it holds of the source as it is and not of every
    harmless reordering; no property is registered on it. -/

/-- the dispatch of the model, over the generated handlers (the route table is tied separately) -/
def routeSrc (h : HttpCfg) (r : Request) : ReqM Response :=
  match r.method, pathSegments r.path with
  | "GET", [""] => .done { status := 200, ctype := some "text/plain; charset=utf-8" }
  | "GET", ["v1", "client", "get-child-version", seg] =>
    match pathId seg with
    | none => .done (refuse .notFound)
    | some p => HandlerSrc.getChildVersion h r p
  | "POST", ["v1", "client", "add-version", seg] =>
    match pathId seg with
    | none => .done (refuse .notFound)
    | some p => HandlerSrc.addVersion h r p
  | "GET", ["v1", "client", "snapshot"] => HandlerSrc.getSnapshot h r
  | "POST", ["v1", "client", "add-snapshot", seg] =>
    match pathId seg with
    | none => .done (refuse .notFound)
    | some v => HandlerSrc.addSnapshot h r v
  | _, _ => .done { status := 404 }

/-- **the handler model is what the handlers' source says**: for every configuration and request -/
theorem handlerSrc_route (h : HttpCfg) (hS : h.ensure = ensureClientFixed) (r : Request) : routeSrc h r = route h r := by
  unfold routeSrc route
  -- with the four handlers rewritten both sides are the same dispatch; no case split on the (string) patterns is needed
  rw [funext (handlerSrc_getChildVersion h r), funext (handlerSrc_addVersion h hS r), handlerSrc_getSnapshot,
    funext (handlerSrc_addSnapshot h r)]
  rfl

end Tcs
