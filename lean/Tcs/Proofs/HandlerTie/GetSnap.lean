import Tcs.Generated.HandlerSrc
namespace Tcs

/-! The handler step for step; the right-hand side is the arm of `route` for this path, written out (`All.lean` puts the arms
    together). -/

theorem handlerSrc_getSnapshot (h : HttpCfg) (r : Request) :
    HandlerSrc.getSnapshot h r =
      (match clientIdHeader h.allow r with
       | .error f => .done (refuse f)
       | .ok c =>
         .txn c getSnapshot fun
           | none => .done { status := 500 }
           | some (.ok (some (v, d))) => .done { status := 200, ctype := some SNAP_CT, vid := some v, body := d }
           | some (.ok none) => .done (refuse .notFound)
           | some (.error .noSuchClient) => .done (refuse .notFound)) := by
  unfold HandlerSrc.getSnapshot
  cases clientIdHeader h.allow r with
  | error f => rfl
  | ok c =>
    simp only []
    congr 1; funext res
    rcases res with _ | ⟨⟨⟩⟩ | _ | ⟨_, _⟩ <;> rfl

end Tcs
