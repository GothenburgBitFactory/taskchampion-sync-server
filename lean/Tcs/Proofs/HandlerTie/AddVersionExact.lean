import Tcs.Proofs.HandlerTie.AddVersion
namespace Tcs

/-! the add_version handler step for step, its validation steps in the order of the model's `route` (not registered for any property:
    the order of the validation steps is not part of one – the registered tie is `handlerSrc_addVersion_sem`) -/

theorem handlerSrc_addVersion (h : HttpCfg) (hS : h.ensure = ensureClientFixed) (r : Request) (p : Uuid) :
    HandlerSrc.addVersion h r p =
      (if contentType r ≠ HS_CT.toUTF8.toList then .done (refuse .badRequest)
       else match clientIdHeader h.allow r with
         | .error f => .done (refuse f)
         | .ok c =>
           match assemble h.params.maxSize r.chunks ByteArray.empty with
           | none => .done (refuse .badRequest)
           | some body =>
             if body.size = 0 then .done (refuse .badRequest)
             else addVersionLoop h.cfg h.ensure c p body r.newId r.now 3) := by
  unfold HandlerSrc.addVersion
  split
  · rfl
  · cases clientIdHeader h.allow r with
    | error f => rfl
    | ok c =>
      simp only [handlerSrc_addVersionBody]
      cases assemble h.params.maxSize r.chunks ByteArray.empty with
      | none => rfl
      | some body =>
        simp only []
        split
        · rfl
        · exact handlerSrc_loop h hS r c p body 3

end Tcs
