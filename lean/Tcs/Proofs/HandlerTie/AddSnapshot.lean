import Tcs.Proofs.HandlerTie.Bodies
namespace Tcs

/-! the add_snapshot handler step for step, its validation steps in the order of the model's `route` (not registered for any
    property: that order is not part of one – the registered tie is `handlerSrc_addSnapshot_sem`) -/

theorem handlerSrc_addSnapshot (h : HttpCfg) (r : Request) (v : Uuid) :
    HandlerSrc.addSnapshot h r v =
      (if contentType r ≠ SNAP_CT.toUTF8.toList then .done (refuse .badRequest)
       else match clientIdHeader h.allow r with
         | .error f => .done (refuse f)
         | .ok c =>
           match assemble h.params.maxSizeSnap r.chunks ByteArray.empty with
           | none => .done (refuse .badRequest)
           | some body =>
             if body.size = 0 then .done (refuse .badRequest)
             else .txn c (addSnapshot h.params v body r.now) fun
               | none => .done { status := 500 }
               | some (.ok _) => .done { status := 200 }
               | some (.error .noSuchClient) => .done (refuse .notFound)) := by
  unfold HandlerSrc.addSnapshot
  split
  · rfl
  · cases clientIdHeader h.allow r with
    | error f => rfl
    | ok c =>
      simp only [handlerSrc_addSnapshotBody]
      cases assemble h.params.maxSizeSnap r.chunks ByteArray.empty with
      | none => rfl
      | some body =>
        simp only []
        split
        · rfl
        · congr 1; funext res
          rcases res with _ | ⟨⟨⟩⟩ | _ <;> rfl

end Tcs
