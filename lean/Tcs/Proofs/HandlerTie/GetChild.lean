import Tcs.Generated.HandlerSrc
namespace Tcs

/-! The handler step for step; the right-hand side is the arm of `route` for this path, written out (`All.lean` puts the arms
    together). -/

theorem handlerSrc_getChildVersion (h : HttpCfg) (r : Request) (p : Uuid) :
    HandlerSrc.getChildVersion h r p =
      (match clientIdHeader h.allow r with
       | .error f => .done (refuse f)
       | .ok c =>
         .txn c (getChildVersion p) fun
           | none => .done { status := 500 }
           | some (.ok (.found v)) => .done { status := 200, ctype := some HS_CT, vid := some v.id, pvid := some v.parent, body := v.seg }
           | some (.ok .notFound) => .done (refuse .notFound)
           | some (.ok .gone) => .done { status := 410, ctype := some "text/plain; charset=utf-8" }
           | some (.error .noSuchClient) => .done (refuse .notFound)) := by
  unfold HandlerSrc.getChildVersion
  cases clientIdHeader h.allow r with
  | error f => rfl
  | ok c =>
    simp only []
    congr 1; funext res
    rcases res with _ | ⟨⟨⟩⟩ | _ | _ | _ <;> rfl

end Tcs
