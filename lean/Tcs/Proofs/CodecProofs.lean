import Tcs.Model.Codec
namespace Tcs

/-! The UUID text codec (`hyphenated` / `parseUuid`): the text form has the 8-4-4-4-12 layout `parseHyphenated` looks for
    (`layout`, `hyphenated_groups`), parsing it gives the id back (`parse_hyphenated`), and whatever parses is below
    2^128 (`parseUuid_lt`). -/

theorem hexDigits_length (n k : Nat) : (hexDigits n k).length = k := by
  induction k generalizing n with
  | zero => rfl
  | succ k ih => simp [hexDigits, ih]

theorem hexVal_hexDigit : ∀ d < 16, hexVal (hexDigit d) = some d := by decide

theorem hexDigit_lower : ∀ d < 16,
    (48 ≤ hexDigit d ∧ hexDigit d ≤ 57) ∨ (97 ≤ hexDigit d ∧ hexDigit d ≤ 102) := by
  decide

theorem hexDigits_mem (n k : Nat) : ∀ b ∈ hexDigits n k, ∃ d, d < 16 ∧ b = hexDigit d := by
  induction k generalizing n with
  | zero => intro b hb; simp [hexDigits] at hb
  | succ k ih =>
    intro b hb
    simp only [hexDigits, List.mem_append, List.mem_singleton] at hb
    rcases hb with hb | hb
    · exact ih _ b hb
    · exact ⟨n % 16, Nat.mod_lt _ (by omega), hb⟩

theorem parseHex_append (a b : List UInt8) (acc : Nat) :
    parseHex (a ++ b) acc = (parseHex a acc).bind (parseHex b) := by
  induction a generalizing acc with
  | nil => rfl
  | cons x xs ih =>
    simp only [List.cons_append, parseHex]
    cases hexVal x <;> simp [ih]

theorem parseHex_hexDigits (n k acc : Nat) :
    parseHex (hexDigits n k) acc = some (acc * 16 ^ k + n % 16 ^ k) := by
  induction k generalizing n acc with
  | zero => simp [hexDigits, parseHex, Nat.mod_one]
  | succ k ih =>
    simp only [hexDigits, parseHex_append, ih, Option.bind_some, parseHex,
      hexVal_hexDigit (n % 16) (Nat.mod_lt _ (by omega))]
    congr 1
    have h1 : (16 : Nat) ^ (k + 1) = 16 * 16 ^ k := by rw [Nat.pow_succ, Nat.mul_comm]
    rw [h1, Nat.mod_mul, Nat.mul_left_comm acc 16 (16 ^ k)]
    omega

theorem block {α} {l a r : List α} {x : α} {n : Nat} (h : l = a ++ x :: r) (ha : a.length = n) :
    l.take n = a ∧ l[n]? = some x ∧ l.drop (n + 1) = r := by
  subst h ha; simp

/-- the 8-4-4-4-12 layout: the five groups and the four hyphens sit where `parseHyphenated` looks -/
theorem layout (a b c e f : List UInt8) (ha : a.length = 8) (hb : b.length = 4)
    (hc : c.length = 4) (he : e.length = 4) :
    let s := a ++ [45] ++ b ++ [45] ++ c ++ [45] ++ e ++ [45] ++ f
    s.take 8 = a ∧ (s.drop 9).take 4 = b ∧ (s.drop 14).take 4 = c ∧ (s.drop 19).take 4 = e ∧
      s.drop 24 = f ∧ s[8]? = some 45 ∧ s[13]? = some 45 ∧ s[18]? = some 45 ∧ s[23]? = some 45 := by
  intro s
  have hs : s = a ++ 45 :: (b ++ 45 :: (c ++ 45 :: (e ++ 45 :: f))) := by simp [s]
  -- one block and its hyphen at a time, each from what the one before left
  obtain ⟨a1, a2, a3⟩ := block hs ha
  obtain ⟨b1, b2, b3⟩ := block a3 hb
  obtain ⟨c1, c2, c3⟩ := block b3 hc
  obtain ⟨e1, e2, e3⟩ := block c3 he
  simp only [List.drop_drop, List.getElem?_drop, Nat.reduceAdd] at *
  exact ⟨a1, b1, c1, e1, e3, a2, b2, c2, e2⟩

theorem split5 (d : List UInt8) :
    d.take 8 ++ (d.drop 8).take 4 ++ (d.drop 12).take 4 ++ (d.drop 16).take 4 ++ d.drop 20 = d := by
  rw [← List.take_add, ← List.take_add, ← List.take_add, List.take_append_drop]

/-- the digit string behind `hyphenated u` -/
def digitsOf (u : Uuid) : List UInt8 := hexDigits (u.val % 2 ^ 128) 32

theorem digitsOf_length (u : Uuid) : (digitsOf u).length = 32 := hexDigits_length _ _

theorem hyphenated_eq (u : Uuid) :
    hyphenated u = (digitsOf u).take 8 ++ [45] ++ ((digitsOf u).drop 8).take 4 ++ [45]
      ++ ((digitsOf u).drop 12).take 4 ++ [45] ++ ((digitsOf u).drop 16).take 4 ++ [45]
      ++ (digitsOf u).drop 20 := rfl

/-- `hyphenated u` is five groups of digits of lengths 8-4-4-4-12 with hyphens between them; everything below about the
    text form is read off this and `layout` -/
theorem hyphenated_groups (u : Uuid) : ∃ a b c e f : List UInt8,
    a.length = 8 ∧ b.length = 4 ∧ c.length = 4 ∧ e.length = 4 ∧ f.length = 12 ∧
    a ++ b ++ c ++ e ++ f = digitsOf u ∧ hyphenated u = a ++ [45] ++ b ++ [45] ++ c ++ [45] ++ e ++ [45] ++ f := by
  have hd := digitsOf_length u
  rw [hyphenated_eq]
  generalize digitsOf u = d at hd ⊢
  refine ⟨_, _, _, _, _, ?_, ?_, ?_, ?_, ?_, split5 d, rfl⟩ <;> simp [hd]

theorem hyphenated_length (u : Uuid) : (hyphenated u).length = 36 := by
  obtain ⟨a, b, c, e, f, ha, hb, hc, he, hf, -, hs⟩ := hyphenated_groups u
  simp [hs, ha, hb, hc, he, hf]

theorem hyphenated_hyphens (u : Uuid) :
    (hyphenated u)[8]? = some 45 ∧ (hyphenated u)[13]? = some 45 ∧
      (hyphenated u)[18]? = some 45 ∧ (hyphenated u)[23]? = some 45 := by
  obtain ⟨a, b, c, e, f, ha, hb, hc, he, -, -, hs⟩ := hyphenated_groups u
  rw [hs]
  exact (layout a b c e f ha hb hc he).2.2.2.2.2

theorem hyphenated_lower (u : Uuid) :
    ∀ b ∈ hyphenated u, b = 45 ∨ (48 ≤ b ∧ b ≤ 57) ∨ (97 ≤ b ∧ b ≤ 102) := by
  intro x hx
  by_cases h45 : x = 45
  · exact .inl h45
  · obtain ⟨a, b, c, e, f, -, -, -, -, -, hd, hs⟩ := hyphenated_groups u
    -- not a hyphen, so one of the digits
    have hx' : x ∈ digitsOf u := by
      rw [← hd]; rw [hs] at hx
      simpa only [List.mem_append, List.mem_singleton, h45, or_false] using hx
    obtain ⟨d, hd, rfl⟩ := hexDigits_mem _ _ x hx'
    exact .inr (hexDigit_lower d hd)

theorem pow_16_32 : (16 : Nat) ^ 32 = 2 ^ 128 := by decide

theorem parseSimple_digitsOf (u : Uuid) (h : u.val < 2 ^ 128) : parseSimple (digitsOf u) = some u := by
  rw [parseSimple, if_pos (digitsOf_length u), digitsOf, parseHex_hexDigits, pow_16_32, Nat.mod_mod, Nat.mod_eq_of_lt h]
  simp

theorem parseHyphenated_hyphenated (u : Uuid) (h : u.val < 2 ^ 128) : parseHyphenated (hyphenated u) = some u := by
  obtain ⟨a, b, c, e, f, ha, hb, hc, he, hf, hd, hs⟩ := hyphenated_groups u
  obtain ⟨h1, h2, h3, h4, h5, h6⟩ := layout a b c e f ha hb hc he
  have hl := hyphenated_length u
  rw [hs] at hl ⊢
  rw [parseHyphenated, if_pos ⟨hl, h6⟩, h1, h2, h3, h4, h5, hd]
  exact parseSimple_digitsOf u h

/-- round trip, for all 2^128 ids -/
theorem parse_hyphenated (u : Uuid) (h : u.val < 2 ^ 128) : parseUuid (hyphenated u) = some u := by
  rw [parseUuid, hyphenated_length]
  exact parseHyphenated_hyphenated u h

theorem hyphenated_inj (u v : Uuid) (hu : u.val < 2 ^ 128) (hv : v.val < 2 ^ 128)
    (h : hyphenated u = hyphenated v) : u = v := by
  have h1 := parse_hyphenated u hu
  rw [h, parse_hyphenated v hv] at h1
  exact (Option.some.inj h1).symm

theorem hexVal_lt {x : UInt8} {d : Nat} (h : hexVal x = some d) : d < 16 := by
  simp only [hexVal, UInt8.le_iff_toNat_le, UInt8.reduceToNat] at h
  (repeat' split at h) <;> cases h <;> omega

theorem parseHex_lt (l : List UInt8) (acc n : Nat) (h : parseHex l acc = some n) :
    n < (acc + 1) * 16 ^ l.length := by
  induction l generalizing acc with
  | nil =>
    cases h
    simp
  | cons x xs ih =>
    rw [parseHex] at h
    cases hx : hexVal x with
    | none => simp [hx] at h
    | some d =>
      rw [hx] at h
      have hd := hexVal_lt hx
      calc n < (acc * 16 + d + 1) * 16 ^ xs.length := ih _ h
        _ ≤ ((acc + 1) * 16) * 16 ^ xs.length := Nat.mul_le_mul_right _ (by omega)
        _ = (acc + 1) * 16 ^ (x :: xs).length := by
          rw [List.length_cons, Nat.pow_succ, Nat.mul_assoc, Nat.mul_comm 16]

theorem parseSimple_lt (s : List UInt8) (u : Uuid) (h : parseSimple s = some u) : u.val < 2 ^ 128 := by
  unfold parseSimple at h
  split at h
  · next hl =>
    obtain ⟨n, hp, rfl⟩ := Option.map_eq_some_iff.mp h
    simpa [hl, pow_16_32] using parseHex_lt s 0 n hp
  · cases h

theorem parseHyphenated_lt (s : List UInt8) (u : Uuid) (h : parseHyphenated s = some u) :
    u.val < 2 ^ 128 := by
  unfold parseHyphenated at h
  split at h
  · exact parseSimple_lt _ u h
  · cases h

theorem parseUuid_lt (s : List UInt8) (u : Uuid) (h : parseUuid s = some u) : u.val < 2 ^ 128 := by
  unfold parseUuid at h
  split at h
  · exact parseSimple_lt _ u h
  · exact parseHyphenated_lt _ u h
  · split at h
    · exact parseHyphenated_lt _ u h
    · cases h
  · split at h
    · exact parseHyphenated_lt _ u h
    · cases h
  · cases h

end Tcs
