import Tcs.Generated.MemSrc
namespace Tcs

/-! **The tie between `core/src/inmemory.rs` and the in-memory backend model.** `MemSrc.*` are
    GENERATED from /repo's current source (`tools/inmemory2lean.py`); call by call and on every
    state they are `Mem.exec` – same answer, same resulting maps (including the partial effects of a
    failing `add_version`, which the source does not roll back) – up to the text of error messages. -/

def eraseErr {α} : Except StorageErr α → Except Unit α
  | .ok a => .ok a
  | .error _ => .error ()

/-- the generated backend -/
def MemSrc.exec (cl : Uuid) : (c : Call) → Mem → Except StorageErr c.Resp × Mem
  | .getClient, m => MemSrc.getClient cl m
  | .newClient l, m => MemSrc.newClient cl l m
  | .setSnapshot sn d, m => MemSrc.setSnapshot cl sn d m
  | .getSnapshotData v, m => MemSrc.getSnapshotData cl v m
  | .getByParent p, m => MemSrc.getByParent cl p m
  | .getVersion v, m => MemSrc.getVersion cl v m
  | .addVersion v p seg, m => MemSrc.addVersion cl v p seg m
  | .commit, m => (.ok (), m)

theorem memSrc_tie (cl : Uuid) (c : Call) (m : Mem) :
    (eraseErr (MemSrc.exec cl c m).1, (MemSrc.exec cl c m).2) = (eraseErr (Mem.exec cl c m).1, (Mem.exec cl c m).2) := by
  cases c with
  | getClient | commit | getVersion => rfl
  | newClient l =>
    simp only [MemSrc.exec, MemSrc.newClient, Mem.exec]
    cases alLookup m.clients cl <;> rfl
  | setSnapshot sn d =>
    simp only [MemSrc.exec, MemSrc.setSnapshot, Mem.exec]
    cases alLookup m.clients cl <;> rfl
  | getSnapshotData v =>
    simp only [MemSrc.exec, MemSrc.getSnapshotData, Mem.exec]
    cases alLookup m.clients cl with
    | none => rfl
    | some c => simp only []; split <;> rfl
  | getByParent p =>
    simp only [MemSrc.exec, MemSrc.getByParent, Mem.exec]
    cases alLookup m.children (cl, p) <;> rfl
  | addVersion v p seg =>
    simp only [MemSrc.exec, MemSrc.addVersion, Mem.exec]
    cases alLookup m.clients cl with
    | none => rfl
    | some c =>
      simp only []
      split
      · rfl
      · split <;> rfl

end Tcs
