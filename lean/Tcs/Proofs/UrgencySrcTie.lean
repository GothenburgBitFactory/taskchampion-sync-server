import Tcs.Generated.UrgencySrc
import Tcs.Model.Server
namespace Tcs

/-! The tie between the source text of the two threshold functions and the model: the terms below
    are GENERATED from /repo's current `core/src/server.rs`; the theorems say that, evaluated with
    Rust's integer semantics, they never panic and compute exactly the model's `lvl` – for every
    target `≥ 0` and every measure in their types.
    The proofs evaluate the comparisons and decide them by cases, so how a comparison is spelt (`a >= b`, `b <= a`) is
    free; the order of the two tests and the spelling `target * 3 / 2` of the threshold are those of the source. -/

/-- in a type that holds `t * 3` (`t ≥ 0`), neither `t * 3` nor `t * 3 / 2` panics, and the quotient is the model's threshold -/
theorem checked_threeHalves (ty : ITy) (t : Int) (h0 : 0 ≤ t) (hlo : ty.lo ≤ 0) (hhi : t * 3 ≤ ty.hi) :
    checked ty (t * 3) = some (t * 3) ∧ checked ty ((t * 3).tdiv 2) = some (threeHalves t) := by
  have h : (t * 3).tdiv 2 = t * 3 / 2 := Int.tdiv_eq_ediv_of_nonneg (by omega)
  exact ⟨if_pos (by omega), by rw [threeHalves, h]; exact if_pos (by omega)⟩

theorem C12_src_for_days (d t : Int) (hd : -(2 ^ 63 : Int) ≤ d ∧ d < 2 ^ 63) (ht : 0 ≤ t ∧ t < 2 ^ 63) :
    evalB (envDays d t) UrgencySrc.forDays = some (lvl d t) := by
  obtain ⟨f1, f2⟩ := checked_threeHalves .i128 t ht.1 (by decide) (by show t * 3 ≤ 2 ^ 127 - 1; omega)
  simp [UrgencySrc.forDays, evalB, evalC, evalR, envDays, bin, cmp, f1, f2, lvl]
  by_cases c1 : threeHalves t ≤ d <;> by_cases c2 : t ≤ d <;> simp [c1, c2]

theorem C12_src_for_versions_since (n t : Int) (hn : 0 ≤ n ∧ n < 2 ^ 32) (ht : 0 ≤ t ∧ t < 2 ^ 32) :
    evalB (envVersions n t) UrgencySrc.forVersionsSince = some (lvl n t) := by
  obtain ⟨f1, f2⟩ := checked_threeHalves .u64 t ht.1 (by decide) (by show t * 3 ≤ 2 ^ 64 - 1; omega)
  simp [UrgencySrc.forVersionsSince, evalB, evalC, evalR, envVersions, bin, cmp, f1, f2, lvl]
  by_cases c1 : threeHalves t ≤ n <;> by_cases c2 : t ≤ n <;> simp [c1, c2]

end Tcs
