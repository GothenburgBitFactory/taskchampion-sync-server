import Tcs.Proofs.ServerSrcTie.GetChild
import Tcs.Proofs.ServerSrcTie.GetSnapshot
import Tcs.Proofs.ServerSrcTie.AddVersion
import Tcs.Proofs.ServerSrcTie.AddSnapshot

/-! **The tie between `core/src/server.rs` and the protocol programs of the model.** The definitions `ServerSrc.*` are
    GENERATED from /repo's current source, statement by statement (`tools/server2lean.py`); the theorems say they are
    the hand-written programs of `Model/Server.lean`, on which every protocol theorem rests. One module per operation,
    so that a change to one operation of the source leaves the ties of the others standing. -/
