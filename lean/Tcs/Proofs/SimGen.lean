import Tcs.Spec.AS
import Tcs.Proofs.Run
namespace Tcs

/-! From the per-call simulation `Sim` to whole programs: a transaction body, a transaction, a request that run
    without storage error on the abstract storage run the same way on the backend, and the abstraction commutes. -/

variable {σ : Type} {B : Backend σ} {abs : σ → AS} {Rep : σ → Prop}

/-- `s` represents `a` and satisfies the representation invariant -/
structure Refines (abs : σ → AS) (Rep : σ → Prop) (s : σ) (a : AS) : Prop where
  eq : abs s = a
  rep : Rep s

structure RefinesSt (abs : σ → AS) (Rep : σ → Prop) (st : TxnSt σ) (ast : TxnSt AS) : Prop where
  durable : Refines abs Rep st.durable ast.durable
  working : Refines abs Rep st.working ast.working

theorem nextSt_rel (c : Call) {st : TxnSt σ} {ast : TxnSt AS} {w : σ} {aw : AS}
    (h : RefinesSt abs Rep st ast) (hw : Refines abs Rep w aw) : RefinesSt abs Rep (nextSt c st w) (nextSt c ast aw) := by
  cases c <;> exact ⟨by first | exact h.durable | exact hw, hw⟩

/-- if the abstract run of a body returns a value, the concrete run returns it too, and both copies stay related -/
theorem sim_runSt (hs : Sim B abs Rep) (cl : Uuid) {α} (p : TxnM α) (st : TxnSt σ) (ast : TxnSt AS)
    (hr : RefinesSt abs Rep st ast) (a : α) (ast' : TxnSt AS) (h : p.runSt ASB cl ast = (some a, ast')) :
    ∃ st', p.runSt B cl st = (some a, st') ∧ RefinesSt abs Rep st' ast' := by
  induction p generalizing st ast with
  | ret x =>
    cases h
    exact ⟨st, rfl, hr⟩
  | call c k ih =>
    cases hx : (ASB.exec cl c ast.working).1 with
    | error e =>
      rw [TxnM.runSt, stepCall_error ASB cl c ast e hx] at h
      cases h
    | ok r =>
      rw [TxnM.runSt, stepCall_ok ASB cl c ast r hx] at h
      obtain ⟨h1, h2, h3⟩ := hs.call cl c st.working r (ASB.exec cl c ast.working).2 hr.working.rep (by
        rw [hr.working.eq]; exact Prod.ext hx rfl)
      obtain ⟨st', q1, q2⟩ := ih r _ _ (nextSt_rel c hr ⟨h2, h3⟩) h
      exact ⟨st', by rw [TxnM.runSt, stepCall_ok B cl c st r h1]; exact q1, q2⟩

theorem sim_run (hs : Sim B abs Rep) (mode : TxnMode) (cl : Uuid) {α} (p : TxnM α) (s : σ) (hr : Rep s)
    (a : α) (t : AS) (h : p.run ASB mode cl (abs s) = (some a, t)) :
    ∃ s', p.run B mode cl s = (some a, s') ∧ abs s' = t ∧ Rep s' := by
  have h1 : (p.runSt ASB cl ⟨abs s, abs s, false⟩).1 = some a := congrArg Prod.fst h
  have h2 : (p.runSt ASB cl ⟨abs s, abs s, false⟩).2.finish mode = t := congrArg Prod.snd h
  obtain ⟨st', q1, q2⟩ := sim_runSt hs cl p ⟨s, s, false⟩ _ ⟨⟨rfl, hr⟩, ⟨rfl, hr⟩⟩ a _ (Prod.ext h1 rfl)
  refine ⟨st'.finish mode, by rw [TxnM.run, q1], ?_⟩
  rw [← h2]
  cases mode
  · exact ⟨q2.working.eq, q2.working.rep⟩
  · exact ⟨q2.durable.eq, q2.durable.rep⟩

/-- request: if no transaction of the abstract run hit a storage error (flag `true`) the concrete run agrees -/
theorem sim_runC (hs : Sim B abs Rep) (mode : TxnMode) {α} (p : ReqM α) (s : σ) (hr : Rep s)
    (a : α) (t : AS) (h : p.runC ASB mode (abs s) = (a, t, true)) :
    ∃ s', p.runC B mode s = (a, s', true) ∧ abs s' = t ∧ Rep s' := by
  induction p generalizing s with
  | done x =>
    cases h
    exact ⟨s, rfl, rfl, hr⟩
  | txn cl body k ih =>
    simp only [ReqM.runC, Prod.mk.injEq, Bool.and_eq_true] at h
    obtain ⟨h1, h2, h3, h4⟩ := h
    obtain ⟨b, hb⟩ := Option.isSome_iff_exists.mp h4
    obtain ⟨s1, q1, q2, q3⟩ := sim_run hs mode cl body s hr b (body.run ASB mode cl (abs s)).2 (Prod.ext hb rfl)
    rw [hb, ← q2] at h1 h2 h3
    obtain ⟨s', r1, r2, r3⟩ := ih (some b) s1 q3 (Prod.ext h1 (Prod.ext h2 h3))
    refine ⟨s', ?_, r2, r3⟩
    simp only [ReqM.runC, q1, r1, Option.isSome_some, Bool.and_self]

end Tcs
