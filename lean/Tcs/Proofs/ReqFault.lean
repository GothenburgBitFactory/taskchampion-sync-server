import Tcs.Proofs.FaultSafety
import Tcs.Proofs.TxnShape
import Tcs.Proofs.HttpProofs
namespace Tcs

/-! Request-level fault safety. The handlers' shape is one predicate (`ReqM.All`: what holds of every transaction body,
    and of what the handler goes on with when a transaction fails), established once for the server's programs. For an
    arbitrary fault oracle: a handler that stops at the first failed transaction answers `bad` as soon as a consumed
    index is faulty, and runs as without faults otherwise. A crash (process crash or power loss) at call index `k` is an
    oracle under which everything below `k` works and nothing from `k` on does (`crashFrom k` is the one where the
    failing calls take no effect); what survives it is a state between two transactions of the fault-free run. -/

theorem reqRunF_txn_ok {σ α β} (B : Backend σ) (faults : Nat → FaultKind) (cl : Uuid) (body : TxnM β)
    (k : Option β → ReqM α) (n : Nat) (s : σ) (h : faults n = .ok) :
    (ReqM.txn cl body k).runF B faults n s =
      (k (body.runF B cl faults (n + 1) ⟨s, s, false⟩).1).runF B faults
        (body.runF B cl faults (n + 1) ⟨s, s, false⟩).2.2 (body.runF B cl faults (n + 1) ⟨s, s, false⟩).2.1.durable := by
  simp only [ReqM.runF, h]

theorem reqRunF_txn_fail {σ α β} (B : Backend σ) (faults : Nat → FaultKind) (cl : Uuid) (body : TxnM β)
    (k : Option β → ReqM α) (n : Nat) (s : σ) (h : faults n ≠ .ok) :
    (ReqM.txn cl body k).runF B faults n s = (k none).runF B faults (n + 1) s := by
  simp only [ReqM.runF]

theorem reqRunF_index_le {σ α} (B : Backend σ) (faults : Nat → FaultKind) (p : ReqM α) (n : Nat) (s : σ) :
    n ≤ (p.runF B faults n s).2.2 := by
  induction p generalizing n s with
  | done a => exact Nat.le_refl n
  | txn cl body k ih =>
    by_cases h : faults n = .ok
    · rw [reqRunF_txn_ok B faults cl body k n s h]
      exact Nat.le_trans (Nat.le_succ n) (Nat.le_trans (runF_index_le B cl faults body (n + 1) _) (ih _ _ _))
    · rw [reqRunF_txn_fail B faults cl body k n s h]
      exact Nat.le_trans (Nat.le_succ n) (ih _ _ _)

theorem reqRunF_congr {σ α} (B : Backend σ) (f g : Nat → FaultKind) (p : ReqM α) (n : Nat) (s : σ)
    (h : ∀ i, n ≤ i → i < (p.runF B f n s).2.2 → f i = g i) :
    p.runF B f n s = p.runF B g n s := by
  induction p generalizing n s with
  | done a => rfl
  | txn cl body k ih =>
    by_cases hf : f n = .ok
    · rw [reqRunF_txn_ok B f cl body k n s hf] at h ⊢
      have hle := reqRunF_index_le B f (k (body.runF B cl f (n + 1) ⟨s, s, false⟩).1)
        (body.runF B cl f (n + 1) ⟨s, s, false⟩).2.2 (body.runF B cl f (n + 1) ⟨s, s, false⟩).2.1.durable
      have hb := runF_index_le B cl f body (n + 1) ⟨s, s, false⟩
      have hg : g n = .ok := (h n (Nat.le_refl n) (Nat.lt_of_lt_of_le hb hle)).symm.trans hf
      rw [reqRunF_txn_ok B g cl body k n s hg,
        ← runF_congr B cl f g body (n + 1) _ fun i h1 h2 => h i (Nat.le_of_succ_le h1) (Nat.lt_of_lt_of_le h2 hle)]
      exact ih _ _ _ fun i h1 h2 => h i (Nat.le_trans (Nat.le_of_succ_le hb) h1) h2
    · have hle := reqRunF_index_le B f (k none) (n + 1) s
      rw [reqRunF_txn_fail B f cl body k n s hf] at h ⊢
      rw [reqRunF_txn_fail B g cl body k n s (h n (Nat.le_refl n) hle ▸ hf)]
      exact ih _ _ _ fun i h1 h2 => h i (Nat.le_of_succ_le h1) h2

theorem reqRunF_eq_noFault {σ α} (B : Backend σ) (faults : Nat → FaultKind) (p : ReqM α) (n : Nat) (s : σ)
    (h : ∀ i, n ≤ i → i < (p.runF B faults n s).2.2 → faults i = .ok) :
    p.runF B faults n s = p.runF B noFault n s :=
  reqRunF_congr B faults noFault p n s h

/-- without faults `runF` is the ordinary run in mode `.snapshotCommit`: `runF` works on a copy that `commit` installs,
    whatever the backend's own mode -/
theorem reqRunF_noFault {σ α} (B : Backend σ) (p : ReqM α) (n : Nat) (s : σ) :
    (p.runF B noFault n s).1 = (p.run B .snapshotCommit s).1 ∧
    (p.runF B noFault n s).2.1 = (p.run B .snapshotCommit s).2 := by
  induction p generalizing n s with
  | done a => exact ⟨rfl, rfl⟩
  | txn cl body k ih =>
    have hb := runF_noFault B cl body (n + 1) ⟨s, s, false⟩
    rw [reqRunF_txn_ok B noFault cl body k n s rfl, hb.1, hb.2]
    exact ih _ _ _

/-- on every path of the handler's control flow: every transaction body satisfies `P`, and what the handler goes on
    with when a transaction fails satisfies `Q` -/
inductive ReqM.All {α} (P : ∀ β : Type, TxnM β → Prop) (Q : ReqM α → Prop) : ReqM α → Prop
  | done (a : α) : All P Q (.done a)
  | txn {β : Type} (cl : Uuid) (body : TxnM β) (k : Option β → ReqM α) (hb : P β body) (hq : Q (k none))
      (hk : ∀ r, All P Q (k r)) : All P Q (.txn cl body k)

abbrev AllCommitLast {α} (p : ReqM α) : Prop := p.All @CommitLast fun _ => True

/-- as soon as a transaction fails the handler stops, with an answer that satisfies `bad` -/
abbrev FailFast {α} (bad : α → Prop) (p : ReqM α) : Prop := p.All (fun _ _ => True) fun q => ∃ a, q = .done a ∧ bad a

theorem ReqM.All.map {α β} {P : ∀ β : Type, TxnM β → Prop} {Q : ReqM α → Prop} {Q' : ReqM β → Prop} (f : α → β)
    (hQ : ∀ q, Q q → Q' (q.map f)) (p : ReqM α) (hp : p.All P Q) : (p.map f).All P Q' := by
  induction hp with
  | done a => exact .done _
  | txn cl body k hb hq _ ih => exact .txn cl body _ hb (hQ _ hq) ih

section
variable {P : ∀ β : Type, TxnM β → Prop} {Q : ReqM Out → Prop} (hQ : Q (.done .storageError))
include hQ

theorem all_one {α} (c : Uuid) (body : TxnM (Except SrvErr α)) (hb : P _ body) (f : α → Out) :
    (one c body f).All P Q := by
  refine .txn c body _ hb hQ fun r => ?_
  rcases r with _ | _ | _ <;> exact .done _

/-- the programs of the server: whatever holds of their five transaction bodies holds of every transaction they open,
    and a failed transaction ends them with `storageError` -/
theorem all_req (S : Sys) (he : P _ S.ensure) (hav : ∀ p seg newId now, P _ (addVersion S.cfg p seg newId now))
    (hgcv : ∀ p, P _ (getChildVersion p)) (has : ∀ v d now, P _ (addSnapshot S.params v d now)) (hgs : P _ getSnapshot)
    (e : Ev) : (e.req S).All P Q := by
  cases e with
  | av c p seg newId now =>
    show (avReq S.cfg S.ensure c p seg newId now 3).All P Q
    generalize 3 = fuel
    induction fuel with
    | zero => exact .done _
    | succ fuel ih =>
      refine .txn c _ _ (hav _ _ _ _) hQ fun r => ?_
      match r with
      | none | some (.ok (.ok _, _)) | some (.ok (.expected _, _)) => exact .done _
      | some (.error .noSuchClient) =>
        refine .txn c _ _ he hQ fun r' => ?_
        cases r' with
        | none => exact .done _
        | some _ => exact ih
  | avLib c p seg newId now => exact all_one hQ _ _ (hav _ _ _ _) _
  | create c =>
    refine .txn c _ _ he hQ fun r => ?_
    cases r <;> exact .done _
  | gcv c p => exact all_one hQ _ _ (hgcv p) _
  | as c v d now => exact all_one hQ _ _ (has _ _ _) _
  | gs c => exact all_one hQ _ _ hgs _
  | reopen => exact .done _

end

theorem all_serve {P : ∀ β : Type, TxnM β → Prop} {Q : ReqM Response → Prop}
    (hQ : Q (.done (addCC (respond .storageError)))) (h : HttpCfg)
    (he : P _ h.ensure) (hav : ∀ p seg newId now, P _ (addVersion h.cfg p seg newId now))
    (hgcv : ∀ p, P _ (getChildVersion p)) (has : ∀ v d now, P _ (addSnapshot h.params v d now)) (hgs : P _ getSnapshot)
    (r : Request) : (serve h r).All P Q := by
  rw [serve_factor]
  split
  · exact .done _
  · exact .done _
  · exact .done _
  · exact (all_req (Q := (· = .done .storageError)) rfl (sysOf h) he hav hgcv has hgs _).map _ (fun _ hq => hq ▸ hQ) _

theorem commitLast_ensure {ens : TxnM Unit} (h : ens = ensureClientFixed ∨ ens = ensureClientPinned) : CommitLast ens := by
  rcases h with h | h <;> rw [h]
  · exact commitLast_ensureFixed
  · exact commitLast_ensurePinned

theorem allCommitLast_req (S : Sys) (hS : S.ensure = ensureClientFixed ∨ S.ensure = ensureClientPinned) (e : Ev) :
    AllCommitLast (e.req S) :=
  all_req trivial S (commitLast_ensure hS) (commitLast_addVersion _) commitLast_getChildVersion (commitLast_addSnapshot _)
    commitLast_getSnapshot e

theorem allCommitLast_serve (h : HttpCfg) (hS : h.ensure = ensureClientFixed ∨ h.ensure = ensureClientPinned)
    (r : Request) : AllCommitLast (serve h r) :=
  all_serve trivial h (commitLast_ensure hS) (commitLast_addVersion _) commitLast_getChildVersion (commitLast_addSnapshot _)
    commitLast_getSnapshot r

theorem failFast_serve (h : HttpCfg) (r : Request) : FailFast (fun resp : Response => ¬ resp.status < 400) (serve h r) :=
  all_serve ⟨_, rfl, by decide⟩ h trivial (fun _ _ _ _ => trivial) (fun _ => trivial) (fun _ _ _ => trivial) trivial r

theorem reqRunF_fault_bad {σ α} {bad : α → Prop} (B : Backend σ) (faults : Nat → FaultKind) (p : ReqM α)
    (hp : FailFast bad p) (n : Nat) (s : σ)
    (h : ∃ i, n ≤ i ∧ i < (p.runF B faults n s).2.2 ∧ faults i ≠ .ok) : bad (p.runF B faults n s).1 := by
  induction hp generalizing n s with
  | done a =>
    obtain ⟨i, h1, h2, _⟩ := h
    exact absurd h2 (Nat.not_lt.2 h1)
  | txn cl body k _ hq _ ih =>
    obtain ⟨a, hn, ha⟩ := hq
    by_cases hf : faults n = .ok
    · rw [reqRunF_txn_ok B faults cl body k n s hf] at h ⊢
      obtain ⟨i, h1, h2, h3⟩ := h
      by_cases hi : i < (body.runF B cl faults (n + 1) ⟨s, s, false⟩).2.2
      · -- the fault is met inside the body: the body fails and the handler stops
        have hin : n + 1 ≤ i := Nat.lt_of_le_of_ne h1 (by rintro rfl; exact h3 hf)
        rw [runF_fault_none B cl faults body (n + 1) _ ⟨i, hin, hi, h3⟩, hn]
        exact ha
      · exact ih _ _ _ ⟨i, Nat.le_of_not_lt hi, h2, h3⟩
    · rw [reqRunF_txn_fail B faults cl body k n s hf, hn]
      exact ha

/-- an answer that is not `bad` is the fault-free answer, with the fault-free database and call count -/
theorem reqRunF_acked {σ α} {bad : α → Prop} (B : Backend σ) (faults : Nat → FaultKind) (p : ReqM α)
    (hp : FailFast bad p) (n : Nat) (s : σ) (h : ¬ bad (p.runF B faults n s).1) :
    p.runF B faults n s = p.runF B noFault n s :=
  reqRunF_eq_noFault B faults p n s fun i h1 h2 =>
    Decidable.byContradiction fun hne => h (reqRunF_fault_bad B faults p hp n s ⟨i, h1, h2, hne⟩)

/-- C05 at request level, single-transaction request, arbitrary fault schedule: the surviving database is the
    pre-state or the fault-free post-state; any fault among the consumed indices makes the request answer as for a
    storage error; and any other answer is the fault-free answer, with the fault-free database. -/
theorem single_txn_fault {σ α β} (B : Backend σ) (hB : CommitId B) (cl : Uuid) (body : TxnM β) (hb : CommitLast body)
    (k : Option β → α) (faults : Nat → FaultKind) (n : Nat) (s : σ) :
    let p : ReqM α := .txn cl body fun r => .done (k r)
    let r := p.runF B faults n s
    let r0 := p.runF B noFault n s
    (r.2.1 = s ∨ r.2.1 = r0.2.1) ∧
    ((∃ i, n ≤ i ∧ i < r.2.2 ∧ faults i ≠ .ok) → r.1 = k none) ∧
    (r.1 ≠ k none → r.1 = r0.1 ∧ r.2.1 = r0.2.1) := by
  intro p r r0
  have hp : FailFast (· = k none) p := .txn cl body _ trivial ⟨_, rfl, rfl⟩ fun _ => .done _
  refine ⟨?_, reqRunF_fault_bad B faults p hp n s, fun h => ?_⟩
  · by_cases hf : faults n = .ok
    · simp only [r, r0, p, reqRunF_txn_ok B _ cl body _ n s hf, reqRunF_txn_ok B noFault cl body _ n s rfl]
      exact (fault_safety B hB cl faults body hb (n + 1) s s).1
    · exact .inl (by simp only [r, p, reqRunF_txn_fail B _ cl body _ n s hf]; rfl)
  · have e : r = r0 := reqRunF_acked B faults p hp n s h
    exact e ▸ ⟨rfl, rfl⟩

/-- crash at call index `k`: nothing at or after index `k` takes effect -/
def crashFrom (k : Nat) : Nat → FaultKind := fun n => if k ≤ n then .failBefore else .ok

theorem crashFrom_ge {k n : Nat} (h : k ≤ n) : crashFrom k n = .failBefore := by
  simp only [crashFrom, h, ↓reduceIte]

theorem crashFrom_lt {k n : Nat} (h : n < k) : crashFrom k n = .ok := by
  simp only [crashFrom, Nat.not_le.2 h, ↓reduceIte]

/-- the database states between the transactions of the FAULT-FREE run of a request:
    [before, after txn 1, after txn 2, …] (SQLite semantics: a transaction's state is its durable copy) -/
def ReqM.txnStates {σ α} (B : Backend σ) : ReqM α → σ → List σ
  | .done _, s => [s]
  | .txn cl body k, s =>
    let r := body.runSt B cl ⟨s, s, false⟩
    s :: (k r.1).txnStates B r.2.durable

theorem txnStates_head {σ α} (B : Backend σ) (p : ReqM α) (s : σ) : s ∈ p.txnStates B s := by
  cases p with
  | done a => exact List.mem_singleton.2 rfl
  | txn cl body k => exact List.mem_cons_self

/-- the value a request produces when every one of its transactions fails at `begin` -/
def ReqM.allFail {α} : ReqM α → α
  | .done a => a
  | .txn _ _ k => (k none).allFail

theorem allFail_map {α β} (f : α → β) (p : ReqM α) : (p.map f).allFail = f p.allFail := by
  induction p with
  | done a => rfl
  | txn cl body k ih => exact ih none

theorem allFail_avReq (cfg : Config) (ens : TxnM Unit) (c p : Uuid) (seg : Bytes) (newId : Uuid) (now : Int) (fuel : Nat) :
    (avReq cfg ens c p seg newId now fuel).allFail = Out.storageError := by
  cases fuel <;> rfl

/-- where every index from `k` on fails, nothing at or after `k` takes effect and every transaction fails at `begin` -/
theorem reqRunF_crashed {σ α} (B : Backend σ) (faults : Nat → FaultKind) (p : ReqM α) (k n : Nat)
    (hge : ∀ i, k ≤ i → faults i ≠ .ok) (h : k ≤ n) (s : σ) :
    (p.runF B faults n s).1 = p.allFail ∧ (p.runF B faults n s).2.1 = s := by
  induction p generalizing n with
  | done a => exact ⟨rfl, rfl⟩
  | txn cl body kk ih =>
    rw [reqRunF_txn_fail B _ cl body kk n s (hge n h)]
    exact ih none (n + 1) (Nat.le_succ_of_le h)

/-- C04 atomicity, request level. A crash at index `k` is any oracle under which everything below `k` works and nothing
    from `k` on does, whether the failing call still takes effect (power lost after the commit) or not: the surviving
    database is one of the states BETWEEN the transactions of the fault-free run – never a half-applied transaction -/
theorem crash_state_between_txns {σ α} (B : Backend σ) (hB : CommitId B) (p : ReqM α) (hp : AllCommitLast p)
    (faults : Nat → FaultKind) (k : Nat) (hlt : ∀ i, i < k → faults i = .ok) (hge : ∀ i, k ≤ i → faults i ≠ .ok)
    (n : Nat) (s : σ) : (p.runF B faults n s).2.1 ∈ p.txnStates B s := by
  induction hp generalizing n s with
  | done a => exact List.mem_singleton.2 rfl
  | txn cl body kk hb _ _ ih =>
    rcases Nat.lt_or_ge n k with hn | hn
    · rw [reqRunF_txn_ok B _ cl body kk n s (hlt n hn)]
      have h0 := runF_noFault B cl body (n + 1) ⟨s, s, false⟩
      by_cases hk : k < (body.runF B cl faults (n + 1) ⟨s, s, false⟩).2.2
      · -- the body met the crash point: nothing after it takes effect, and what survives is the state before or
        -- after this transaction
        rw [(reqRunF_crashed B faults _ k _ hge (Nat.le_of_lt hk) _).2]
        rcases (fault_safety B hB cl faults body hb (n + 1) s s).1 with h | h
        · rw [h]; exact List.mem_cons_self
        · rw [h, h0.2]; exact List.mem_cons_of_mem _ (txnStates_head B _ _)
      · -- the body ran before the crash point, as without faults; the rest of the request follows
        rw [runF_congr B cl faults noFault body (n + 1) _ fun i _ hi => hlt i (Nat.lt_of_lt_of_le hi (Nat.le_of_not_lt hk)),
          h0.1, h0.2]
        exact List.mem_cons_of_mem _ (ih _ _ _)
    · rw [(reqRunF_crashed B faults _ k n hge hn s).2]
      exact txnStates_head B _ s

end Tcs
