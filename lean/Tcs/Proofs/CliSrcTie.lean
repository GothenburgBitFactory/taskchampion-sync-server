import Tcs.Generated.CliSrc
import Tcs.Generated.ParamsImpl
import Tcs.Model.Config
namespace Tcs

/-! The tie between the clap declarations in the binary's source and the resolution model. The argument
    specifications and the wiring of `main` are GENERATED from /repo's current source (`tools/clap2lean.py`).
    Three theorems, each tying something else:
    * `cliSrc_args`: the generated declarations are, field for field, the stated list. It is the only theorem that
      pins `short`, `append`, `required` and `parser`.
    * `cliSrc_wiring`: the generated wiring map is the stated one (what it means: `CliWire.lean`).
    * `cliSrc_resolve`: `resolveSpec` applied to the generated declarations is the model's `resolve`. `resolveSpec` is
      clap's resolution rule as far as it depends on a declaration: command line over environment (if the declaration
      names a variable) over default; values split at the delimiter; the last occurrence of a single-valued argument
      wins. It reads `long`, `env`, `delimiter` and `default` only; that `listen` is the one argument whose absence is a
      usage error is built into it, as into `resolve`, and not read from `required`. -/

def findArg (l : List ArgSpec) (n : String) : Option ArgSpec := l.find? (·.long = n)

def specRaw (s : ArgSpec) (flag : List String) (env : Option String) : Option (List String) :=
  rawValues flag (if s.env.isSome then env else none) (s.delimiter == some ',')

/-- what a declared numeric default stands for: the literal of `ServerConfig::default()` as extracted from the source -/
def defaultNat : Option String → Option Nat
  | some "ServerConfig::default().snapshot_versions" => some ParamsImpl.defaultVersions
  | some "ServerConfig::default().snapshot_days" => some ParamsImpl.defaultDays
  | _ => none

def specLast (s : ArgSpec) (flag : List String) (env : Option String) : Option String :=
  (specRaw s flag env).bind (·.getLast?)

def specVersions (v : ArgSpec) (c : Cli) : Option Nat :=
  match specLast v c.versionsFlag c.versionsEnv with
  | none => defaultNat v.default
  | some s => parseU32 s

def specDays (y : ArgSpec) (c : Cli) : Option Int :=
  match specLast y c.daysFlag c.daysEnv with
  | none => (defaultNat y.default).map Int.ofNat
  | some s => parseI64 s

def specAllow (a : ArgSpec) (c : Cli) : Option (Option (List Uuid)) :=
  match specRaw a c.allowFlag c.allowEnv with
  | none => some none
  | some ids => (ids.mapM fun (s : String) => parseUuid s.toUTF8.toList).map some

def specDir (d : ArgSpec) (c : Cli) : Option String :=
  match specLast d c.dataDirFlag c.dataDirEnv with
  | some v => some v
  | none => d.default

def resolveSpec (specs : List ArgSpec) (c : Cli) : Option ServerArgs :=
  match findArg specs "listen", findArg specs "data-dir", findArg specs "allow-client-id",
        findArg specs "snapshot-versions", findArg specs "snapshot-days" with
  | some l, some d, some a, some v, some y =>
    (specRaw l c.listenFlag c.listenEnv).bind fun listen =>       -- `get_many("listen").unwrap()`
    (specVersions v c).bind fun versions =>
    (specDays y c).bind fun days =>
    (specAllow a c).bind fun allow =>
    (specDir d c).map fun dir =>
      { dataDir := dir, snapshotVersions := versions, snapshotDays := days, allow := allow, listen := listen }
  | _, _, _, _, _ => none

/-- the declarations are the ones the model (and the harness that feeds it flags and environment variables by these
    names) was written for -/
theorem cliSrc_args : CliSrc.args =
    [ { long := "listen", short := some 'l', env := some "LISTEN", delimiter := some ',', append := true, required := true, default := none, parser := "string" },
      { long := "data-dir", short := some 'd', env := some "DATA_DIR", default := some "/var/lib/taskchampion-sync-server", parser := "os_string" },
      { long := "allow-client-id", short := some 'C', env := some "CLIENT_ID", delimiter := some ',', append := true, parser := "Uuid" },
      { long := "snapshot-versions", env := some "SNAPSHOT_VERSIONS", default := some "ServerConfig::default().snapshot_versions", parser := "u32" },
      { long := "snapshot-days", env := some "SNAPSHOT_DAYS", default := some "ServerConfig::default().snapshot_days", parser := "i64" } ] := rfl

/-- `ServerArgs::new` reads each field from the argument of that name; `main` hands the resolved targets to
    `ServerConfig`, the resolved allow-list and a `SqliteStorage` on the resolved directory to `WebServer::new`, and
    binds every resolved listen address with `?` (which is what `httpCfgOf` and `startup` say). The wiring is a finite map,
    listed in sorted order: the order in which the source writes the fields of a struct literal is not part of it -/
theorem cliSrc_wiring : CliSrc.wiring =
    [("ServerArgs.client_id_allowlist", "arg:allow-client-id"),
     ("ServerArgs.data_dir", "arg:data-dir"),
     ("ServerArgs.listen_addresses", "arg:listen"),
     ("ServerArgs.snapshot_days", "arg:snapshot-days"),
     ("ServerArgs.snapshot_versions", "arg:snapshot-versions"),
     ("ServerConfig.snapshot_days", "server_args.snapshot_days"),
     ("ServerConfig.snapshot_versions", "server_args.snapshot_versions"),
     ("WebServer::new.0", "config"),
     ("WebServer::new.1", "server_args.client_id_allowlist"),
     ("WebServer::new.2", "SqliteStorage::new(server_args.data_dir)?"),
     ("bind", "each:server_args.listen_addresses:?")] := rfl

/-! What `resolveSpec` reads of a declaration: whether it names an environment variable, whether its delimiter is ',', and
    its default. The lemmas are about any declaration with those three facts; `cliSrc_resolve` puts in the generated ones. -/

theorem findArg_cons (s : ArgSpec) (l : List ArgSpec) (n : String) :
    findArg (s :: l) n = if s.long = n then some s else findArg l n := by
  simp only [findArg, List.find?_cons]; split <;> simp_all

section
variable {s : ArgSpec} (he : s.env.isSome)
include he

theorem specRaw_eq {b : Bool} (hd : (s.delimiter == some ',') = b) (flag : List String) (env : Option String) :
    specRaw s flag env = rawValues flag env b := by
  simp only [specRaw, he, hd, if_true]

theorem specAllow_eq (hd : (s.delimiter == some ',') = true) (c : Cli) : specAllow s c = allowOf c := by
  simp only [specAllow, allowOf, specRaw_eq he hd]; rfl

variable (hd : (s.delimiter == some ',') = false)
include hd

theorem specLast_eq (flag : List String) (env : Option String) : specLast s flag env = single flag env := by
  simp only [specLast, single, specRaw_eq he hd]

theorem specVersions_eq (hdef : defaultNat s.default = some DEFAULT_VERSIONS) (c : Cli) :
    specVersions s c = versionsOf c := by
  simp only [specVersions, versionsOf, specLast_eq he hd, hdef]; rfl

theorem specDays_eq (hdef : (defaultNat s.default).map Int.ofNat = some DEFAULT_DAYS) (c : Cli) :
    specDays s c = daysOf c := by
  simp only [specDays, daysOf, specLast_eq he hd, hdef]; rfl

theorem specDir_eq (hdef : s.default = some DEFAULT_DATA_DIR) (c : Cli) :
    specDir s c = some ((single c.dataDirFlag c.dataDirEnv).getD DEFAULT_DATA_DIR) := by
  simp only [specDir, specLast_eq he hd, hdef]
  cases single c.dataDirFlag c.dataDirEnv <;> rfl

end

/-- **the resolution model is clap's rule applied to the declarations in the source**, as far as the rule reads them -/
theorem cliSrc_resolve (c : Cli) : resolveSpec CliSrc.args c = resolve c := by
  -- the five declarations are found by name; the literal names are compared by `simp` (`String.reduceEq`), not by
  -- `decide` or `rfl`, which is slow to check on strings ...
  simp only [resolveSpec, CliSrc.args, findArg_cons, String.reduceEq, ↓reduceIte]
  -- ... and each reads its environment variable, is split at ',' or not, and has the default the model assumes (the two
  -- numeric defaults as goals: as `rfl` arguments they would be tried, slowly, before the declaration is known)
  rw [specRaw_eq rfl rfl, specVersions_eq rfl rfl ?_, specDays_eq rfl rfl ?_, specAllow_eq rfl rfl, specDir_eq rfl rfl rfl]
  · rfl
  · rw [defaultNat]; rfl
  · rw [defaultNat]; rfl

end Tcs
