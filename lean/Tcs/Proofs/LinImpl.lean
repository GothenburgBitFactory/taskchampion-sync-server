import Tcs.Proofs.LinSpec
import Tcs.Proofs.Impl
import Tcs.Proofs.Reduction
namespace Tcs

/-! The transaction-atomic execution of the *programs* (`Ev.req`, the model of the handlers) on a
    concrete backend is, step for step, the machine of `ConcSpec` on the abstract storage –
    provided every id the server draws is fresh at the moment it is drawn. -/

variable {σ : Type}

theorem thStep_txn (I : Impl σ) {β : Type} (c : Uuid) (body : TxnM β) (k : Option β → ReqM Out) (db : σ) (hrep : I.Rep db)
    (x : β) (a' : AS) (h : body.run ASB I.mode c (I.abs db) = (some x, a')) :
    ∃ db', thStep I.B I.mode db (.outside (.txn c body k)) = some (db', .outside (k (some x))) ∧ I.Rep db' ∧ I.abs db' = a' := by
  obtain ⟨s', q1, q2, q3⟩ := sim_run I.sim I.mode c body db hrep x a' h
  exact ⟨s', by simp only [thStep, q1], q3, q2⟩

/-- The thread that stands for request `e` while the machine's thread is in a given phase. `Ev.req` gives the HTTP
    AddVersion three attempts (`avReq … 3`); the one that found no client is spent when the creation transaction is
    due, so the program left after it is `avReq … 2`. -/
inductive ThPh (S : Sys) : Ev → Th σ Out → Phase → Prop
  | idle (e : Ev) : ThPh S e (.idle (e.req S)) .idle
  | ready (e : Ev) : ThPh S e (.outside (e.req S)) .ready
  | needCreate (c p : Uuid) (seg : Bytes) (n : Uuid) (now : Int) (k : Option Unit → ReqM Out)
      (hk : k (some ()) = avReq S.cfg S.ensure c p seg n now 2) :
      ThPh S (.av c p seg n now) (.outside (.txn c S.ensure k)) .needCreate
  | retry (c p : Uuid) (seg : Bytes) (n : Uuid) (now : Int) :
      ThPh S (.av c p seg n now) (.outside (avReq S.cfg S.ensure c p seg n now 2)) .retry
  | answered (e : Ev) (o : Out) : ThPh S e (.outside (.done o)) (.answered o)
  | finished (e : Ev) (o : Out) : ThPh S e (.finished o) (.finished o)

/-- if the machine's thread steps, the program it stands for steps on the backend, to the program of the new phase -/
theorem th_step (I : Impl σ) (S : Sys) (hS : S.ensure = ensureClientFixed) {e : Ev} {c : Uuid} (hc : e.client = some c)
    (hereq : e.isHttp = true ∨ e.isLib = true) {t : Nat} {db : σ} {th : Th σ Out} {y x : Phase} {a' : AS} {new : List Act}
    (hth : ThPh S e th y) (hst : PhStep S e t (I.abs db) y x a' new) (hrep : I.Rep db) (hinv : Inv (I.abs db))
    (hfresh : new = [.lin t] → ∀ n, e.drawn = some n → n ∉ (I.abs db).ids)
    (hretry : y = .retry → ((I.abs db).st c).client ≠ none) :
    ∃ db' th', thStep I.B I.mode db th = some (db', th') ∧ ThPh S e th' x ∧ I.Rep db' ∧ I.abs db' = a' := by
  cases hst with
  | invoke => cases hth; exact ⟨db, _, rfl, .ready e, hrep, rfl⟩
  | respond o => cases hth; exact ⟨db, _, rfl, .finished e o, hrep, rfl⟩
  | create =>
    cases hth with
    | needCreate c' p seg n now k hk =>
      cases hc
      obtain ⟨x, hx, -⟩ := (as_ensure S c (I.abs db)).run I.mode
      obtain ⟨db', h1, h2, h3⟩ := thStep_txn I c S.ensure k db hrep x _ (hS ▸ hx)
      exact ⟨db', _, h1, hk ▸ .retry c p seg n now, h2, h3⟩
  | toCreate hy hn =>
    obtain ⟨hav, hnone⟩ := (needsCreate_iff e _ c hc).1 hn
    rcases hy with rfl | rfl
    · cases hth
      cases e with
      | av c' p seg n now =>
        cases hc
        have h1 := as_addVersion_none S.cfg c p seg n now (I.abs db) hnone I.mode
        obtain ⟨db', h1, h2, h3⟩ := thStep_txn I c _ _ db hrep _ _ h1
        exact ⟨db', _, h1, .needCreate c p seg n now _ rfl, h2, h3⟩
      | _ => cases hav
    · exact absurd hnone (hretry rfl)
  | lin hy hn =>
    have hf : ∀ n, (linEv e).drawn = some n → n ∉ (I.abs db).ids := by cases e <;> exact hfresh rfl
    -- library-level requests: the one transaction of the request
    have lib : e.isLib = true → ∃ db' th', thStep I.B I.mode db th = some (db', th') ∧
        ThPh S e th' (.answered (asStep S e (I.abs db)).1) ∧ I.Rep db' ∧ I.abs db' = (asStep S e (I.abs db)).2 := by
      intro he
      obtain rfl : th = .outside (e.req S) := by rcases hy with rfl | rfl <;> cases hth <;> first | rfl | cases he
      -- one transaction: the step is the whole request (`thStep_one`), which runs as on the abstract storage
      obtain ⟨db', h1, h2, h3⟩ := sim_runC I.sim I.mode (e.req S) db hrep _ _
        (as_req S hS I.mode e _ hinv (by cases e <;> first | exact hf | cases he))
      obtain ⟨α, c', body, f, hone⟩ : ∃ (α : Type) (c' : Uuid) (body : TxnM (Except SrvErr α)) (f : α → Out),
          e.req S = one c' body f := by cases e <;> first | exact ⟨_, _, _, _, rfl⟩ | cases he
      rw [hone] at h1 ⊢
      exact ⟨db', _, (thStep_one ..).trans (by rw [h1]), .answered e _, h3, h2⟩
    cases e with
    | av c' p seg n now =>
      -- the HTTP AddVersion on a known client: `Server::add_version`, answered as the library request answers
      cases hc
      have hcl : ((I.abs db).st c).client ≠ none :=
        fun hcl => Bool.false_ne_true (hn ▸ (needsCreate_iff _ _ c rfl).2 ⟨rfl, hcl⟩)
      -- `ready`: `avReq … 3`; `retry`: `avReq … 2`; either way an attempt is left
      obtain ⟨fuel, rfl⟩ : ∃ fuel, th = .outside (avReq S.cfg S.ensure c p seg n now (fuel + 1)) := by
        rcases hy with rfl | rfl <;> cases hth <;> exact ⟨_, rfl⟩
      obtain ⟨k, r, hprog, hr, hk⟩ := avReq_known S I.mode c p seg n now fuel _ hcl (hinv.each c) (hf n rfl)
      obtain ⟨db', h1, h2, h3⟩ := thStep_txn I c _ k db hrep r _ hr
      rw [hprog]
      exact ⟨db', _, h1, hk ▸ .answered _ _, h2, h3⟩
    | create | reopen => simp [Ev.isHttp, Ev.isLib] at hereq
    | gcv | «as» | gs | avLib => exact lib rfl

/-- the database represents the machine's storage, and every thread is the program `ThPh` assigns to its phase -/
structure ARel (I : Impl σ) (S : Sys) (evs : List Ev) (A : Atomic σ Out) (m : MState) : Prop where
  rep : I.Rep A.db
  abs : I.abs A.db = m.a
  th : ∀ (t : Nat) (e : Ev), evs[t]? = some e →
    ∃ (x : Th σ Out) (ph : Phase), A.threads[t]? = some x ∧ m.ph[t]? = some ph ∧ ThPh S e x ph
  lenA : A.threads.length = evs.length
  lenM : m.ph.length = evs.length

/-- `retry`: a request at `retry` finds its client – it has been created, and clients are never removed – so its next
    attempt is its last transaction: the three attempts of `avReq … 3` are never used up -/
structure MFacts (evs : List Ev) (m : MState) (seen : List Uuid) : Prop where
  inv : Inv m.a
  seen : Seen m.a seen
  retry : ∀ (t : Nat) (e : Ev) (c : Uuid), evs[t]? = some e → e.client = some c → m.ph[t]? = some Phase.retry →
    (m.a.st c).client ≠ none

theorem arel_step (I : Impl σ) (S : Sys) (hS : S.ensure = ensureClientFixed) (evs : List Ev)
    (hmix : ReqMix evs) (A : Atomic σ Out) (m : MState) (seen : List Uuid)
    (h : ARel I S evs A m) (hf : MFacts evs m seen) (t : Nat) (m' : MState) (hs : MStep S evs m t m')
    (hfresh : ∀ e, evs[t]? = some e → m'.log = m.log ++ [.lin t] → FreshEv e seen) :
    ∃ A', stepAtomic I.B I.mode A t = some A' ∧ ARel I S evs A' m' := by
  obtain @⟨e, y, x, a', new, he, hp, hst⟩ := hs
  obtain ⟨th, y', hth, hp', hr⟩ := h.th t e he
  rw [hp] at hp'; cases hp'
  obtain ⟨c, hc⟩ := reqMix_client hmix e (List.mem_of_getElem? he)
  rw [← h.abs] at hst
  obtain ⟨db', th', hstep, hr', hrep', habs'⟩ := th_step I S hS hc (reqMix_mem hmix e (List.mem_of_getElem? he)) hr hst
    h.rep (h.abs ▸ hf.inv)
    (fun hnew n hn hmem => freshEv_not_seen (hfresh e he (congrArg _ hnew)) hn (hf.seen.ids n (h.abs ▸ hmem)))
    (fun hy => h.abs ▸ hf.retry t e c he hc (hy ▸ hp))
  refine ⟨⟨db', A.threads.set t th'⟩, stepAtomic_of hth hstep, ?_⟩
  refine ⟨hrep', habs', fun u e' he' => ?_, by simp [h.lenA], by simp [h.lenM]⟩
  rw [set_get hth, set_get hp]
  split
  · next hut =>
    subst hut
    rw [he] at he'
    cases he'
    exact ⟨_, _, rfl, rfl, hr'⟩
  · exact h.th u e' he'

/-- `hrel'` serves only to read `MFacts.retry` of the new state off `LinRel.retry` -/
theorem mfacts_step (S : Sys) (evs : List Ev) (m : MState) (seen : List Uuid) (hf : MFacts evs m seen) (t : Nat) (m' : MState)
    (hs : MStep S evs m t m') (b' : AS) (hrel' : LinRel evs m' b')
    (hfresh : ∀ e, evs[t]? = some e → m'.log = m.log ++ [.lin t] → FreshEv e seen) :
    (m'.log ≠ m.log ++ [.lin t] → MFacts evs m' seen) ∧
    (m'.log = m.log ++ [.lin t] → ∀ e, evs[t]? = some e → MFacts evs m' (seenAfter e seen)) := by
  obtain @⟨e, y, x, a', new, he, hp, hst⟩ := hs
  -- the new log is `m.log ++ new`, and only a `lin` step has `new = [.lin t]`
  cases hst with
  | lin hy hn =>
    refine ⟨fun h => absurd rfl h, fun _ e' he' => ?_⟩
    cases he.symm.trans he'
    have := inv_asStep S (linEv e) m.a seen hf.inv hf.seen ((freshEv_linEv e seen).2 (hfresh e he rfl))
    rw [← linStep_eq, seenAfter_linEv] at this
    exact ⟨this.1, this.2, hrel'.retry⟩
  | create =>
    refine ⟨fun _ => ?_, fun h => nomatch List.append_cancel_left h⟩
    suffices Inv (createStep S e m.a) ∧ Seen (createStep S e m.a) seen from ⟨this.1, this.2, hrel'.retry⟩
    cases hc : e.client with
    | none => rw [createStep, hc]; exact ⟨hf.inv, hf.seen⟩
    | some c =>
      refine ⟨?_, ?_⟩
      · rw [createStep, hc]; exact (inv_asStep S (.create c) m.a seen hf.inv hf.seen trivial).1
      · rw [createStep_eq S hc]
        refine ⟨hf.seen.ids, fun d hd => ?_⟩
        dsimp only at hd ⊢
        by_cases hdc : d = c
        · subst hdc; rw [upd_same, cCreate_versions] at hd ⊢; exact hf.seen.base d hd
        · rw [upd_other _ _ _ _ hdc] at hd ⊢; exact hf.seen.base d hd
  | _ =>
    exact ⟨fun _ => ⟨hf.inv, hf.seen, hrel'.retry⟩, fun h => nomatch List.append_cancel_left h⟩

theorem atomic_none (I : Impl σ) (S : Sys) (evs : List Ev) (A : Atomic σ Out) (m : MState) (h : ARel I S evs A m) (t : Nat)
    (hm : mstep S evs m t = none) : stepAtomic I.B I.mode A t = none := by
  rw [stepAtomic_eq]
  cases he : evs[t]? with
  | none =>
    have : A.threads[t]? = none := by
      rw [List.getElem?_eq_none_iff] at he ⊢
      rw [h.lenA]; exact he
    rw [this]; rfl
  | some e =>
    obtain ⟨x, ph, hx, hp, hr⟩ := h.th t e he
    unfold mstep at hm
    simp only [he, hp] at hm
    cases hr with
    | finished => rw [hx]; rfl
    | ready | retry => simp only at hm; split at hm <;> cases hm
    | _ => cases hm

/-- One step of the lock-step run. A last-transaction step (`m'.log = m.log ++ [.lin t]`) needs its drawn id fresh,
    and adds the request's ids to the seen ones. -/
theorem sim_step (I : Impl σ) (S : Sys) (hS : S.ensure = ensureClientFixed) (evs : List Ev)
    (hmix : ReqMix evs) (a0 : AS) (A : Atomic σ Out) (m : MState) (seen : List Uuid)
    (h : ARel I S evs A m) (hf : MFacts evs m seen) (hls : LinState S evs a0 m) (t : Nat) (m' : MState)
    (hm : mstep S evs m t = some m')
    (hfr : ∀ e, evs[t]? = some e → m'.log = m.log ++ [.lin t] → FreshEv e seen) :
    ∃ A', stepAtomic I.B I.mode A t = some A' ∧ ARel I S evs A' m' ∧ LinState S evs a0 m' ∧
      ((m'.log ≠ m.log ++ [.lin t] ∧ linOrder m'.log = linOrder m.log ∧ MFacts evs m' seen) ∨
       (m'.log = m.log ++ [.lin t] ∧ linOrder m'.log = linOrder m.log ++ [t] ∧
         ∃ e, evs[t]? = some e ∧ MFacts evs m' (seenAfter e seen))) := by
  have hs := mstep_rel S evs m m' t hm
  have hls' := linstate_step S evs hmix a0 m t m' hls hs
  obtain ⟨b', _, _, hrel', _⟩ := hls'.sim
  obtain ⟨A', hA, hrel⟩ := arel_step I S hS evs hmix A m seen h hf t m' hs hfr
  have hmf := mfacts_step S evs m seen hf t m' hs b' hrel' hfr
  refine ⟨A', hA, hrel, hls', ?_⟩
  rcases mstep_linOrder S evs m m' t hs with ⟨hl, hlo, _⟩ | ⟨hl, hlo⟩
  · obtain @⟨e, _, _, _, _, he, _, _⟩ := hs
    exact .inr ⟨hl, hlo, e, he, hmf.2 hl e he⟩
  · exact .inl ⟨hl, hlo, hmf.1 hl⟩

/-- the ids seen once the requests linearized so far have run -/
def seenAt (seen0 : List Uuid) (evs : List Ev) (m : MState) : List Uuid := seenFold seen0 (evsOf evs (linOrder m.log))

/-- `fresh`: freshness is accumulated along the linearization order, not along the schedule -/
structure RunInv (I : Impl σ) (S : Sys) (evs : List Ev) (a0 : AS) (seen0 : List Uuid) (A : Atomic σ Out) (m : MState) : Prop where
  arel : ARel I S evs A m
  facts : MFacts evs m (seenAt seen0 evs m)
  lin : LinState S evs a0 m
  fresh : Fresh (evsOf evs (linOrder m.log)) seen0

theorem runinv_step (I : Impl σ) (S : Sys) (hS : S.ensure = ensureClientFixed) (evs : List Ev)
    (hmix : ReqMix evs) (a0 : AS) (seen0 : List Uuid) (A : Atomic σ Out) (m : MState)
    (h : RunInv I S evs a0 seen0 A m) (t : Nat) (m' : MState) (hm : mstep S evs m t = some m')
    (hfr : ∀ e, evs[t]? = some e → m'.log = m.log ++ [.lin t] → FreshEv e (seenAt seen0 evs m)) :
    ∃ A', stepAtomic I.B I.mode A t = some A' ∧ RunInv I S evs a0 seen0 A' m' := by
  obtain ⟨A', hA, hrel, hls', hmf⟩ := sim_step I S hS evs hmix a0 A m _ h.arel h.facts h.lin t m' hm hfr
  refine ⟨A', hA, hrel, ?_, hls', ?_⟩
  · rcases hmf with ⟨_, hlo, hmf⟩ | ⟨_, hlo, e, he, hmf⟩
    · rw [seenAt, hlo]; exact hmf
    · rw [seenAt, hlo, evsOf_snoc evs _ t e he, seenFold_snoc]; exact hmf
  · rcases hmf with ⟨_, hlo, _⟩ | ⟨hl, hlo, e, he, _⟩
    · rw [hlo]; exact h.fresh
    · rw [hlo, evsOf_snoc evs _ t e he, fresh_snoc]
      exact ⟨h.fresh, hfr e he hl⟩

/-- The lock-step run, with the freshness of each drawn id supplied at the step that uses it (the supplier may use
    everything established up to that step): what it maintains holds after every prefix of the schedule. -/
theorem runinv_prefix (I : Impl σ) (S : Sys) (hS : S.ensure = ensureClientFixed) (evs : List Ev)
    (hmix : ReqMix evs) (a0 : AS) (seen0 : List Uuid) (sch : List Nat) (A : Atomic σ Out) (m : MState)
    (h : RunInv I S evs a0 seen0 A m)
    (hcb : ∀ s1 t s2, sch = s1 ++ t :: s2 →
      RunInv I S evs a0 seen0 (runAtomic I.B I.mode A s1) (mrun S evs m s1) →
      ∀ m' e, mstep S evs (mrun S evs m s1) t = some m' → m'.log = (mrun S evs m s1).log ++ [.lin t] → evs[t]? = some e →
        FreshEv e (seenAt seen0 evs (mrun S evs m s1)))
    (p q : List Nat) (hpq : sch = p ++ q) :
    RunInv I S evs a0 seen0 (runAtomic I.B I.mode A p) (mrun S evs m p) := by
  -- by induction on the length of the prefix, so that the step added is the one the supplier is asked about
  suffices H : ∀ n, RunInv I S evs a0 seen0 (runAtomic I.B I.mode A (sch.take n)) (mrun S evs m (sch.take n)) by
    have := H p.length
    rwa [hpq, List.take_left] at this
  intro n
  induction n with
  | zero => exact h
  | succ n ih =>
    rw [List.take_add_one]
    cases ht : sch[n]? with
    | none => rw [Option.toList_none, List.append_nil]; exact ih
    | some t =>
      have hs : sch = sch.take n ++ t :: sch.drop (n + 1) := by
        obtain ⟨hn, rfl⟩ := List.getElem?_eq_some_iff.mp ht
        rw [List.getElem_cons_drop, List.take_append_drop]
      rw [Option.toList_some, mrun_append, runAtomic_append]
      simp only [mrun, runAtomic]
      cases hm : mstep S evs (mrun S evs m (sch.take n)) t with
      | none => rw [atomic_none I S evs _ _ ih.arel t hm]; exact ih
      | some m' =>
        obtain ⟨A', hA, hri'⟩ := runinv_step I S hS evs hmix a0 seen0 _ _ ih t m' hm
          fun e he hl => hcb _ t _ hs ih m' e hm hl he
        rw [hA]; exact hri'

theorem runinv_run (I : Impl σ) (S : Sys) (hS : S.ensure = ensureClientFixed) (evs : List Ev)
    (hmix : ReqMix evs) (a0 : AS) (seen0 : List Uuid) (sch : List Nat) (A : Atomic σ Out) (m : MState)
    (h : RunInv I S evs a0 seen0 A m)
    (hcb : ∀ s1 t s2, sch = s1 ++ t :: s2 →
      RunInv I S evs a0 seen0 (runAtomic I.B I.mode A s1) (mrun S evs m s1) →
      ∀ m' e, mstep S evs (mrun S evs m s1) t = some m' → m'.log = (mrun S evs m s1).log ++ [.lin t] → evs[t]? = some e →
        FreshEv e (seenAt seen0 evs (mrun S evs m s1))) :
    RunInv I S evs a0 seen0 (runAtomic I.B I.mode A sch) (mrun S evs m sch) :=
  runinv_prefix I S hS evs hmix a0 seen0 sch A m h hcb sch [] (List.append_nil _).symm

def Phase.stage : Phase → Nat
  | .idle => 0
  | .finished _ => 2
  | _ => 1

theorem ThPh.stage {S : Sys} {e : Ev} {x : Th σ Out} {p : Phase} (h : ThPh S e x p) : x.stage = p.stage := by
  cases h <;> rfl

/-- in the lock-step run a finished thread has been linearized, and a linearized thread has been invoked -/
theorem RunInv.stage_lin {I : Impl σ} {S : Sys} {evs : List Ev} {a0 : AS} {seen0 : List Uuid} {A : Atomic σ Out} {m : MState}
    (h : RunInv I S evs a0 seen0 A m) {t : Nat} {x : Th σ Out} (hx : A.threads[t]? = some x) :
    (x.stage = 2 → t ∈ linOrder m.log) ∧ (t ∈ linOrder m.log → 1 ≤ x.stage) := by
  have ht : t < evs.length := h.arel.lenA ▸ (List.getElem?_eq_some_iff.mp hx).1
  obtain ⟨x', p, hx', hp, hr⟩ := h.arel.th t _ (List.getElem?_eq_getElem ht)
  cases hx.symm.trans hx'
  rw [hr.stage, mem_linOrder, h.lin.pl.lin t, hp]
  cases p <;> simp [Phase.stage]

/-- The freshness the lock-step run asks for at a last transaction, from the distinctness of drawn ids (`hdist`, for
    the one request `t`) and causality (`hprec`, stated for the atomic run: if `u` names the id drawn for `t`, then after
    some prefix `t` was finished and `u` not yet invoked). Ids of other requests differ by `hdist`; had a request
    linearized so far named `t`'s id, `t` would have been finished before it was invoked – but threads only move
    forward, and `t` is still in progress. The arguments from `s1` on are those `runinv_prefix` hands to its `hcb`. -/
theorem fresh_of_causal (I : Impl σ) (S : Sys) (evs : List Ev) (a0 : AS) (seen0 : List Uuid) (A0 : Atomic σ Out) (m0 : MState)
    (sched' : List Nat)
    (hprec : ∀ (t u : Nat) (e e' : Ev) (n : Uuid), evs[t]? = some e → evs[u]? = some e' → e.drawn = some n → n ∈ e'.argIds →
      ∃ p' q' x y, sched' = p' ++ q' ∧
        (runAtomic I.B I.mode A0 p').threads[t]? = some x ∧ x.stage = 2 ∧
        (runAtomic I.B I.mode A0 p').threads[u]? = some y ∧ y.stage = 0)
    (s1 : List Nat) (t : Nat) (s2 : List Nat) (hs : sched' = s1 ++ t :: s2)
    (hri : RunInv I S evs a0 seen0 (runAtomic I.B I.mode A0 s1) (mrun S evs m0 s1))
    (m' : MState) (e : Ev) (hm : mstep S evs (mrun S evs m0 s1) t = some m')
    (hl : m'.log = (mrun S evs m0 s1).log ++ [.lin t]) (he : evs[t]? = some e)
    (hdist : ∀ n, e.drawn = some n → n ≠ Uuid.nil ∧ n ∉ seen0 ∧ n ∉ e.argIds ∧
      ∀ (u : Nat) (e' : Ev), u ≠ t → evs[u]? = some e' → e'.drawn ≠ some n) :
    FreshEv e (seenAt seen0 evs (mrun S evs m0 s1)) := by
  unfold FreshEv
  cases hd : e.drawn with
  | none => trivial
  | some n =>
    obtain ⟨h1, h2, h3, h4⟩ := hdist n hd
    refine ⟨h1, ?_, h3⟩
    -- t has not been linearized yet, so it is not finished
    obtain ⟨pht, hpt, hpht⟩ : ∃ ph, (mrun S evs m0 s1).ph[t]? = some ph ∧ (ph = .ready ∨ ph = .retry) :=
      (mstep_linOrder S evs _ m' t (mstep_rel S evs _ m' t hm)).elim (fun h => h.2.2) fun h => absurd hl h.1
    intro hmem
    rw [seenAt, mem_seenFold] at hmem
    rcases hmem with hmem | ⟨e', he'mem, hmem⟩
    · exact h2 hmem
    · -- e' is the event of a thread u already linearized
      simp only [evsOf, List.mem_filterMap] at he'mem
      obtain ⟨u, hu, heu⟩ := he'mem
      have hlinu : Act.lin u ∈ (mrun S evs m0 s1).log := (mem_linOrder _ _).1 hu
      obtain ⟨ou, hou⟩ := (hri.lin.pl.lin u).1 hlinu
      have hut : u ≠ t := by
        intro h; subst h; rw [hpt] at hou
        rcases hpht with rfl | rfl <;> rcases hou with hou | hou <;> cases hou
      rcases hmem with hmem | hmem
      · -- n is an argument of e': then t had finished before u was invoked; impossible
        obtain ⟨p', q', x, y, hs', hx, hxf, hy, hyi⟩ := hprec t u e e' n he heu hd hmem
        -- thread states at s1: `t` is in progress, `u` has been invoked
        obtain ⟨xt, pt, hxt, hpt', hrt⟩ := hri.arel.th t e he
        obtain ⟨xu, -, hxu, -, -⟩ := hri.arel.th u e' heu
        rw [hpt] at hpt'; cases hpt'
        have hxt1 : xt.stage = 1 := by rw [hrt.stage]; rcases hpht with rfl | rfl <;> rfl
        have hxu1 : 1 ≤ xu.stage := (hri.stage_lin hxu).2 hu
        have hsplit : s1 ++ (t :: s2) = p' ++ q' := by rw [← hs, hs']
        rcases List.append_eq_append_iff.mp hsplit with ⟨d, hd1, _⟩ | ⟨d, hd1, _⟩
        · -- p' = s1 ++ d : `u` was invoked at s1, so it is not idle at p'
          rw [hd1, runAtomic_append] at hy
          obtain ⟨y', hy', hle⟩ := runAtomic_stage I.B I.mode _ d u xu hxu
          cases hy.symm.trans hy'
          omega
        · -- s1 = p' ++ d : `t` was finished at p', so it is finished at s1
          rw [hd1, runAtomic_append] at hxt
          obtain ⟨x', hx', hle⟩ := runAtomic_stage I.B I.mode _ d t x hx
          cases hxt.symm.trans hx'
          omega
      · exact h4 u e' hut heu hmem

/-! `arel_run` assumes `Fresh` of the whole linearization order up front (`newLin` computes that order from the run).
    The property theorems go through `runinv_run` instead, because the freshness of a step can only be derived from
    what has been established before it; nothing below is used further. -/

/-- the threads linearized during the run of `sch` from `m`, in order -/
def newLin (S : Sys) (evs : List Ev) : MState → List Nat → List Nat
  | _, [] => []
  | m, t :: ts =>
    match mstep S evs m t with
    | none => newLin S evs m ts
    | some m' => (if m'.log = m.log ++ [.lin t] then [t] else []) ++ newLin S evs m' ts

theorem linOrder_mrun (S : Sys) (evs : List Ev) (m : MState) (sch : List Nat) :
    linOrder (mrun S evs m sch).log = linOrder m.log ++ newLin S evs m sch := by
  induction sch generalizing m with
  | nil => simp [mrun, newLin]
  | cons t ts ih =>
    unfold mrun newLin
    cases hm : mstep S evs m t with
    | none => exact ih m
    | some m' =>
      simp only
      rw [ih m']
      rcases mstep_linOrder S evs m m' t (mstep_rel S evs m m' t hm) with ⟨hl, hlo, _⟩ | ⟨hl, hlo⟩
      · rw [hlo, if_pos hl, List.append_assoc]
      · rw [hlo, if_neg hl, List.nil_append]

theorem newLin_append (S : Sys) (evs : List Ev) (m : MState) (s1 s2 : List Nat) :
    newLin S evs m (s1 ++ s2) = newLin S evs m s1 ++ newLin S evs (mrun S evs m s1) s2 := by
  induction s1 generalizing m with
  | nil => rfl
  | cons t ts ih =>
    simp only [List.cons_append, newLin, mrun]
    cases mstep S evs m t with
    | none => exact ih m
    | some m' => simp only [ih m', List.append_assoc]

theorem arel_run (I : Impl σ) (S : Sys) (hS : S.ensure = ensureClientFixed) (evs : List Ev)
    (hmix : ReqMix evs) (a0 : AS) (sch : List Nat) (A : Atomic σ Out) (m : MState) (seen : List Uuid)
    (h : ARel I S evs A m) (hf : MFacts evs m seen) (hls : LinState S evs a0 m)
    (hfresh : Fresh (evsOf evs (newLin S evs m sch)) seen) :
    ARel I S evs (runAtomic I.B I.mode A sch) (mrun S evs m sch) := by
  induction sch generalizing A m seen with
  | nil => exact h
  | cons t ts ih =>
    unfold runAtomic mrun
    unfold newLin at hfresh
    cases hm : mstep S evs m t with
    | none =>
      rw [atomic_none I S evs A m h t hm]
      rw [hm] at hfresh
      exact ih A m seen h hf hls hfresh
    | some m' =>
      rw [hm] at hfresh
      simp only at hfresh
      obtain ⟨A', hA, hrel, hls', hmf⟩ := sim_step I S hS evs hmix a0 A m seen h hf hls t m' hm fun e he hl => by
        rw [if_pos hl, List.singleton_append, evsOf_cons evs _ t e he] at hfresh; exact hfresh.1
      rw [hA]
      rcases hmf with ⟨hl, _, hmf⟩ | ⟨hl, _, e, he, hmf⟩
      · rw [if_neg hl] at hfresh
        exact ih A' m' _ hrel hmf hls' hfresh
      · rw [if_pos hl, List.singleton_append, evsOf_cons evs _ t e he] at hfresh
        exact ih A' m' _ hrel hmf hls' hfresh.2

end Tcs
