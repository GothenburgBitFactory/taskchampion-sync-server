import Tcs.Proofs.Run
import Tcs.Proofs.InvProofs
namespace Tcs

/-! The transaction programs of `Server.lean`, run on the abstract storage under the invariant, compute the
    specification step: one lemma per program, stated in terms of `asStep` / `cstep` itself. -/

theorem as_call (cl : Uuid) (c : Call) (d a a' : AS) (cm : Bool) (r : c.Resp) {α} (k : c.Resp → TxnM α)
    (h : AS.exec cl c a = (.ok r, a')) (hc : c ≠ .commit) :
    (TxnM.call c k).runSt ASB cl ⟨d, a, cm⟩ = (k r).runSt ASB cl ⟨d, a', cm⟩ := by
  rw [TxnM.runSt, stepCall]
  simp only [ASB, h]
  cases c <;> first | rfl | exact absurd rfl hc

theorem as_getClient (cl : Uuid) (a d : AS) (cm : Bool) {α} (k : Option Client → TxnM α) :
    (TxnM.call .getClient k).runSt ASB cl ⟨d, a, cm⟩ = (k (a.st cl).client).runSt ASB cl ⟨d, a, cm⟩ := rfl

theorem as_getVersion (cl v : Uuid) (a d : AS) (cm : Bool) {α} (k : Option Version → TxnM α) :
    (TxnM.call (.getVersion v) k).runSt ASB cl ⟨d, a, cm⟩ =
      (k ((a.st cl).versions.find? (·.id = v))).runSt ASB cl ⟨d, a, cm⟩ := rfl

/-- what `body` does on the abstract storage from a clean transaction state: it returns a value that `g` maps to `o`
    and leaves both copies at `a'` (nothing written, or committed last) -/
def Does {α} (body : TxnM α) (g : α → Out) (cl : Uuid) (a : AS) (o : Out) (a' : AS) : Prop :=
  ∃ r cm, body.runSt ASB cl ⟨a, a, false⟩ = (some r, ⟨a', a', cm⟩) ∧ g r = o

variable {α : Type} {g : α → Out} {cl : Uuid} {a a' : AS} {o : Out}

theorem Does.run {body : TxnM α} (h : Does body g cl a o a') (mode : TxnMode) : ∃ r, body.run ASB mode cl a = (some r, a') ∧ g r = o := by
  obtain ⟨r, cm, h, hg⟩ := h
  exact ⟨r, run_of_runSt ASB mode cl _ a a' _ cm h, hg⟩

theorem Does.runC {body : TxnM (Except SrvErr α)} {f : α → Out} (h : Does body (outOf f) cl a o a')
    (mode : TxnMode) : (one cl body f).runC ASB mode a = (o, a', true) := by
  obtain ⟨r, hr, rfl⟩ := h.run mode
  rw [runC_one, hr]
  rfl

theorem Does.ret {r : α} (hg : g r = o) (ha : a' = a) : Does (.ret r) g cl a o a' :=
  ⟨r, false, by rw [ha]; rfl, hg⟩

/-- a successful call that leaves the storage alone -/
theorem Does.read {c : Call} {k : c.Resp → TxnM α} {r : c.Resp} (hc : c ≠ .commit) (h : AS.exec cl c a = (.ok r, a)) (hk : Does (k r) g cl a o a') : Does (.call c k) g cl a o a' := by
  obtain ⟨x, cm, hx, hg⟩ := hk
  exact ⟨x, cm, (as_call cl c a a a false r k h hc).trans hx, hg⟩

/-- one successful write, then commit, then the answer -/
theorem Does.write {c : Call} {r : c.Resp} {x : α} (hc : c ≠ .commit) (h : AS.exec cl c a = (.ok r, a')) (hg : g x = o) :
    Does (.call c fun _ => .call .commit fun _ => .ret x) g cl a o a' :=
  ⟨x, true, as_call cl c a a a' false r _ h hc, hg⟩

theorem as_getChildVersion (cl p : Uuid) (a : AS) :
    Does (getChildVersion p) (outOf gcvOut) cl a (cGetChild (a.st cl) p) a := by
  simp only [getChildVersion, bind, pure, call, TxnM.bind, cGetChild]
  refine .read nofun rfl ?_
  cases (a.st cl).client with
  | none => exact .ret rfl rfl
  | some c =>
    refine .read nofun rfl ?_
    cases (a.st cl).versions.find? (·.parent = p) with
    | some v => exact .ret rfl rfl
    | none => simp only []; split <;> exact .ret rfl rfl

theorem as_addVersion (S : Sys) (cl p : Uuid) (seg : Bytes) (n : Uuid) (now : Int) (a : AS)
    (hx : CInv (a.st cl)) (hid : n ∉ a.ids) :
    Does (addVersion S.cfg p seg n now) (outOf avOut) cl a (asStep S (.avLib cl p seg n now) a).1
      (asStep S (.avLib cl p seg n now) a).2 := by
  simp only [addVersion, bind, pure, call, TxnM.bind, asStep, Ev.client, cstep, cAddVersion]
  refine .read nofun rfl ?_
  cases hc : (a.st cl).client with
  | none => exact .ret rfl (a.upd_self cl)
  | some c =>
    simp only []
    cases h : (c.latest ≠ Uuid.nil && p ≠ c.latest) with
    | true => exact .ret rfl (a.upd_self cl)
    | false =>
      refine .write (r := ()) nofun ?_ rfl
      -- the contract checks of `AS.exec` pass: the id is new, and the accepted parent has no child
      simp only [AS.exec, hc, hid, no_child_of_accept _ hx c hc p h]
      rfl

theorem as_addVersion_none (cfg : Config) (cl p : Uuid) (seg : Bytes) (n : Uuid) (now : Int) (a : AS)
    (hc : (a.st cl).client = none) (mode : TxnMode) :
    (addVersion cfg p seg n now).run ASB mode cl a = (some (.error .noSuchClient), a) :=
  run_of_runSt ASB mode cl _ a a _ false (by simp only [addVersion, bind, pure, call, TxnM.bind, as_getClient, hc]; rfl)

/-- the snapshot search reads the store like `walkBack` and changes nothing -/
theorem as_snapWalk (cl v : Uuid) (last : Option Uuid) (a d : AS) (cm : Bool) (fuel : Nat) (vid : Uuid) :
    (snapWalk v last fuel vid).runSt ASB cl ⟨d, a, cm⟩ =
      (some (walkBack (a.st cl).versions v last fuel vid), ⟨d, a, cm⟩) := by
  induction fuel generalizing vid with
  | zero => rfl
  | succ n ih =>
    unfold snapWalk walkBack
    by_cases h1 : (vid = v && v ≠ Uuid.nil) = true
    · rw [if_pos h1, if_pos h1]; rfl
    · rw [if_neg h1, if_neg h1]
      by_cases h2 : some vid = last
      · rw [if_pos h2, if_pos h2]; rfl
      · rw [if_neg h2, if_neg h2]
        by_cases h3 : (n = 0 || vid = Uuid.nil) = true
        · rw [if_pos h3, if_pos h3]; rfl
        · rw [if_neg h3, if_neg h3]
          show (TxnM.call (.getVersion vid) _).runSt ASB cl ⟨d, a, cm⟩ = _
          rw [as_getVersion]
          cases (a.st cl).versions.find? (·.id = vid) with
          | none => rfl
          | some ver => exact ih ver.parent

theorem Does.snapWalk {v : Uuid} {last : Option Uuid} {fuel : Nat} {vid : Uuid} {f : Bool → TxnM α} (h : Does (f (walkBack (a.st cl).versions v last fuel vid)) g cl a o a') :
    Does ((snapWalk v last fuel vid).bind f) g cl a o a' := by
  obtain ⟨x, cm, hx, hg⟩ := h
  exact ⟨x, cm, by rw [runSt_bind, as_snapWalk]; exact hx, hg⟩

theorem as_addSnapshot (S : Sys) (cl v : Uuid) (data : Bytes) (now : Int) (a : AS) :
    Does (addSnapshot S.params v data now) (outOf .asDone) cl a (asStep S (.as cl v data now) a).1
      (asStep S (.as cl v data now) a).2 := by
  simp only [addSnapshot, bind, pure, call, TxnM.bind, asStep, Ev.client, cstep, cAddSnapshot]
  refine .read nofun rfl ?_
  cases hc : (a.st cl).client with
  | none => exact .ret rfl (a.upd_self cl)
  | some c =>
    simp only []
    split
    · exact .ret rfl (a.upd_self cl)
    · refine .snapWalk ?_
      split
      · refine .write (r := ()) nofun ?_ rfl
        simp only [AS.exec, hc, addedId, List.append_nil]
      · exact .ret rfl (a.upd_self cl)

theorem as_getSnapshot (cl : Uuid) (a : AS) (hx : CInv (a.st cl)) :
    Does getSnapshot (outOf gsOut) cl a (cGetSnapshot (a.st cl)) a := by
  simp only [getSnapshot, bind, pure, call, TxnM.bind, cGetSnapshot]
  refine .read nofun rfl ?_
  cases hc : (a.st cl).client with
  | none => exact .ret rfl rfl
  | some c =>
    simp only []
    cases hs : c.snap with
    | none => exact .ret rfl rfl
    | some sn =>
      obtain ⟨d, hd⟩ := (hx.snapSome c sn hc hs).1
      refine .read (r := some d) nofun ?_ ?_
      · simp only [AS.exec, hc, hs, hd, Option.map_some, ↓reduceIte]
      · rw [hd]; exact .ret rfl rfl

theorem as_ensure (S : Sys) (cl : Uuid) (a : AS) :
    Does ensureClientFixed (fun _ => .created) cl a .created (asStep S (.create cl) a).2 := by
  simp only [ensureClientFixed, bind, pure, call, TxnM.bind, asStep, Ev.client, cstep, cCreate]
  refine .read nofun rfl ?_
  cases hc : (a.st cl).client with
  | some c => exact .ret rfl (a.upd_self cl)
  | none =>
    refine .write (r := ()) (x := ()) nofun ?_ rfl
    simp only [AS.exec, hc, addedId, List.append_nil]

end Tcs
