import Tcs.Spec.CStep
namespace Tcs

/-! Facts about the specification step that need no invariant: how `asStep` acts on the record of each client, on the
    id set and on the answer; that `cAddVersion` / `cAddSnapshot` either accept or leave the record alone; what a
    request appends; which answers a request can give. -/

/-- `cCreate` on a record without a client -/
def cCreated (x : CSt) : CSt := { client := some ⟨Uuid.nil, none⟩, data := x.data, versions := x.versions }

theorem cCreate_eq (x : CSt) (h : x.client = none) : cCreate x = cCreated x := by
  simp [cCreate, cCreated, h]

theorem cCreate_some (x : CSt) (c : Client) (h : x.client = some c) : cCreate x = x := by
  simp [cCreate, h]

theorem cCreate_versions (x : CSt) : (cCreate x).versions = x.versions := by
  unfold cCreate; cases x.client <;> rfl

theorem cCreate_client (x : CSt) : (cCreate x).client ≠ none := by
  cases hc : x.client with
  | none | some => simp [cCreate, hc]

/-- AddVersion either accepts (answers `avOk newId`, appends the version, bumps the counter) or leaves the record
    alone and does not answer `avOk` -/
theorem cAddVersion_cases (cfg : Config) (x : CSt) (p : Uuid) (seg : Bytes) (n : Uuid) (now : Int) :
    (∃ c, x.client = some c ∧ cAddVersion cfg x p seg n now =
        (.avOk n (urgency cfg now c.snap),
         { client := some ⟨n, c.snap.map bump⟩, data := x.data, versions := x.versions ++ [⟨n, p, seg⟩] })) ∨
    ((cAddVersion cfg x p seg n now).2 = x ∧ ∀ v u, (cAddVersion cfg x p seg n now).1 ≠ .avOk v u) := by
  unfold cAddVersion
  cases x.client with
  | none => exact .inr ⟨rfl, fun _ _ h => nomatch h⟩
  | some c =>
    simp only []
    split
    · exact .inr ⟨rfl, fun _ _ h => nomatch h⟩
    · exact .inl ⟨c, rfl, rfl⟩

/-- AddSnapshot either accepts (answers `asDone true`, stores `(v, now, 0)` and the bytes) or leaves the record alone -/
theorem cAddSnapshot_cases (P : Params) (x : CSt) (v : Uuid) (d : Bytes) (now : Int) :
    (∃ c, x.client = some c ∧ cAddSnapshot P x v d now =
        (.asDone true, { client := some { c with snap := some ⟨v, now, 0⟩ }, data := some d, versions := x.versions })) ∨
    ((cAddSnapshot P x v d now).2 = x ∧ (cAddSnapshot P x v d now).1 ≠ .asDone true) := by
  unfold cAddSnapshot
  cases x.client with
  | none => exact .inr ⟨rfl, fun h => nomatch h⟩
  | some c =>
    simp only []
    split
    · exact .inr ⟨rfl, fun h => nomatch h⟩
    · split
      · exact .inl ⟨c, rfl, rfl⟩
      · exact .inr ⟨rfl, fun h => nomatch h⟩

theorem cstep_cases (S : Sys) (e : Ev) (x : CSt) : (cstep S e x).2 = x ∨ (cstep S e x).2.client ≠ none := by
  cases e with
  | av c p seg n now =>
    rcases cAddVersion_cases S.cfg (cCreate x) p seg n now with ⟨c, _, h⟩ | ⟨h, _⟩
    · exact .inr (by rw [cstep, h]; nofun)
    · exact .inr (by rw [cstep, h]; exact cCreate_client x)
  | avLib c p seg n now =>
    rcases cAddVersion_cases S.cfg x p seg n now with ⟨c, _, h⟩ | ⟨h, _⟩
    · exact .inr (by rw [cstep, h]; nofun)
    · exact .inl h
  | create c => exact .inr (cCreate_client x)
  | «as» c v d now =>
    rcases cAddSnapshot_cases S.params x v d now with ⟨c, _, h⟩ | ⟨h, _⟩
    · exact .inr (by rw [cstep, h]; nofun)
    · exact .inl h
  | _ => exact .inl rfl

theorem cstep_client_some (S : Sys) (e : Ev) (x : CSt) (h : x.client ≠ none) : (cstep S e x).2.client ≠ none :=
  (cstep_cases S e x).elim (fun h' => by rwa [h']) id

/-- "no client ⇒ empty record" is kept by every request -/
theorem nc_cstep (S : Sys) (e : Ev) (x : CSt) (hx : x.client = none → x = {}) :
    (cstep S e x).2.client = none → (cstep S e x).2 = {} :=
  (cstep_cases S e x).elim (fun h => by rwa [h]) fun h hn => absurd hn h

theorem cAddVersion_avOk_id (cfg : Config) (x : CSt) (p : Uuid) (seg : Bytes) (newId : Uuid) (now : Int) (v : Uuid)
    (u : Urgency) (hv : (cAddVersion cfg x p seg newId now).1 = .avOk v u) : v = newId := by
  rcases cAddVersion_cases cfg x p seg newId now with ⟨c, -, h⟩ | ⟨-, h2⟩
  · rw [h] at hv; cases hv; rfl
  · exact absurd hv (h2 v u)

theorem avOk_id (S : Sys) (e : Ev) (x : CSt) (v : Uuid) (u : Urgency) (h : (cstep S e x).1 = .avOk v u) :
    e.drawn = some v := by
  cases e with
  | av c p seg newId now => rw [cAddVersion_avOk_id S.cfg (cCreate x) p seg newId now v u h]; rfl
  | avLib c p seg newId now => rw [cAddVersion_avOk_id S.cfg x p seg newId now v u h]; rfl
  | _ =>
    simp only [cstep, cGetChild, cAddSnapshot, cGetSnapshot] at h
    repeat' split at h
    all_goals cases h

theorem cstep_ne_storageError (S : Sys) (e : Ev) (x : CSt) : (cstep S e x).1 ≠ .storageError := by
  cases e <;> simp only [cstep, cAddVersion, cGetChild, cAddSnapshot, cGetSnapshot] <;> (repeat' split) <;>
    exact Out.noConfusion

theorem drawn_client (e : Ev) (n : Uuid) (h : e.drawn = some n) : ∃ c, e.client = some c := by
  cases e <;> simp [Ev.drawn, Ev.client] at h ⊢

/-- what a request appends to its client's version list -/
def appended (e : Ev) (o : Out) : List Version :=
  match e, o with
  | .av _ p seg _ _, .avOk v _ => [⟨v, p, seg⟩]
  | .avLib _ p seg _ _, .avOk v _ => [⟨v, p, seg⟩]
  | _, _ => []

theorem cAddVersion_versions (cfg : Config) (x : CSt) (p : Uuid) (seg : Bytes) (n : Uuid) (now : Int) :
    (cAddVersion cfg x p seg n now).2.versions = x.versions ++
      (match (cAddVersion cfg x p seg n now).1 with | .avOk v _ => [⟨v, p, seg⟩] | _ => []) := by
  rcases cAddVersion_cases cfg x p seg n now with ⟨c, -, h⟩ | ⟨h1, h2⟩
  · rw [h]
  · rw [h1]
    cases ho : (cAddVersion cfg x p seg n now).1 <;> first | exact (List.append_nil _).symm | exact absurd ho (h2 _ _)

theorem cstep_versions (S : Sys) (e : Ev) (x : CSt) :
    (cstep S e x).2.versions = x.versions ++ appended e (cstep S e x).1 := by
  cases e with
  | av c p seg n now =>
    rw [cstep, cAddVersion_versions, cCreate_versions]
    cases (cAddVersion S.cfg (cCreate x) p seg n now).1 <;> rfl
  | avLib c p seg n now =>
    rw [cstep, cAddVersion_versions]
    cases (cAddVersion S.cfg x p seg n now).1 <;> rfl
  | «as» c v d now =>
    rcases cAddSnapshot_cases S.params x v d now with ⟨cl, -, h⟩ | ⟨h1, -⟩
    · simp only [cstep, h]; exact (List.append_nil _).symm
    · simp only [cstep, h1]; exact (List.append_nil _).symm
  | create c => exact (cCreate_versions x).trans (List.append_nil _).symm
  | _ => exact (List.append_nil _).symm

theorem appended_ids (e : Ev) (o : Out) : (appended e o).map (·.id) = addedId e o := by
  cases e <;> first | rfl | (cases o <;> rfl)

theorem mem_appended {e : Ev} {o : Out} {v : Version} (hv : v ∈ appended e o) :
    v.parent ∈ e.argIds ∧ ∃ u, o = .avOk v.id u := by
  cases e with
  | av | avLib => cases o <;> first | (cases hv; done) | (cases List.mem_singleton.1 hv; exact ⟨by simp [Ev.argIds], _, rfl⟩)
  | _ => cases hv

theorem asStep_st (S : Sys) (e : Ev) (a : AS) (c : Uuid) :
    (asStep S e a).2.st c = if e.client = some c then (cstep S e (a.st c)).2 else a.st c := by
  unfold asStep
  cases hc : e.client with
  | none => simp
  | some d =>
    by_cases hd : d = c
    · subst hd; simp
    · simp [hd, upd, Ne.symm hd]

theorem asStep_same (S : Sys) (e : Ev) (a : AS) (c : Uuid) (hc : e.client = some c) :
    (asStep S e a).2.st c = (cstep S e (a.st c)).2 := by
  rw [asStep_st, if_pos hc]

theorem asStep_other (S : Sys) (e : Ev) (a : AS) (c d : Uuid) (hc : e.client = some c) (hd : d ≠ c) :
    (asStep S e a).2.st d = a.st d := by
  rw [asStep_st, hc, if_neg fun h => hd (Option.some.inj h).symm]

theorem asStep_out (S : Sys) (e : Ev) (a : AS) (c : Uuid) (hc : e.client = some c) :
    (asStep S e a).1 = (cstep S e (a.st c)).1 := by
  simp [asStep, hc]

theorem asStep_ids (S : Sys) (e : Ev) (a : AS) (c : Uuid) (hc : e.client = some c) :
    (asStep S e a).2.ids = a.ids ++ addedId e (cstep S e (a.st c)).1 := by
  simp [asStep, hc]

theorem asStep_none (S : Sys) (e : Ev) (a : AS) (hc : e.client = none) : (asStep S e a).2 = a := by
  simp [asStep, hc]

theorem asStep_unchanged (S : Sys) (e : Ev) (a : AS) (c : Uuid) (hc : e.client = some c)
    (h : (cstep S e (a.st c)).2 = a.st c) (hi : addedId e (cstep S e (a.st c)).1 = []) : (asStep S e a).2 = a := by
  simp only [asStep, hc, h, hi, upd_self, List.append_nil]

/-- AddVersion through the handler is: create the client if unknown, then the library call -/
theorem asStep_av (S : Sys) (c p : Uuid) (seg : Bytes) (n : Uuid) (now : Int) (a : AS) :
    asStep S (.av c p seg n now) a = asStep S (.avLib c p seg n now) (asStep S (.create c) a).2 := by
  simp only [asStep, Ev.client, cstep, upd_same, upd_upd, addedId, List.append_nil]
  cases (cAddVersion S.cfg (cCreate (a.st c)) p seg n now).1 <;> rfl

theorem asStep_ne_storageError (S : Sys) (e : Ev) (a : AS) : (asStep S e a).1 ≠ .storageError := by
  unfold asStep
  split
  · simp
  · exact cstep_ne_storageError S e _

theorem avLib_found (S : Sys) (c p : Uuid) (seg : Bytes) (n : Uuid) (now : Int) (a : AS) (h : (a.st c).client ≠ none) :
    (asStep S (.avLib c p seg n now) a).1 ≠ .noSuchClient := by
  obtain ⟨cl, hcl⟩ := Option.ne_none_iff_exists'.mp h
  simp only [asStep, Ev.client, cstep, cAddVersion, hcl]
  split <;> exact Out.noConfusion

theorem asStep_avOk_drawn (S : Sys) (e : Ev) (a : AS) (v : Uuid) (u : Urgency) (h : (asStep S e a).1 = .avOk v u) :
    e.drawn = some v := by
  cases hc : e.client with
  | none => simp [asStep, hc] at h
  | some c => exact avOk_id S e _ v u (asStep_out S e a c hc ▸ h)

end Tcs
