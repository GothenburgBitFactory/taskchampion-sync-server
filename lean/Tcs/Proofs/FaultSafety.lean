import Tcs.Model.Sem.Fault
import Tcs.Proofs.Run
namespace Tcs

/-! One transaction body under the fault-injecting interpreter `TxnM.runF`. First what holds of any body: the call index
    only grows, the run looks at the oracle only at the indices it consumes, a fault at one of them makes the body fail.
    Then bodies whose `commit` comes last (`CommitLast`): whatever the oracle, the durable copy ends up as it was or as
    the fault-free run leaves it (`fault_durable`); `fault_safety` puts the two together. -/

theorem runF_index_le {σ α} (B : Backend σ) (cl : Uuid) (faults : Nat → FaultKind) (p : TxnM α) (n : Nat)
    (st : TxnSt σ) : n ≤ (p.runF B cl faults n st).2.2 := by
  induction p generalizing n st with
  | ret a => exact Nat.le_refl n
  | call c k ih =>
    simp only [TxnM.runF]
    cases stepCallF B cl (faults n) c st with
    | abort st' => exact Nat.le_succ n
    | cont r st' => exact Nat.le_trans (Nat.le_succ n) (ih r (n + 1) st')

/-- two oracles that agree on the indices consumed by the run under the first give the same run -/
theorem runF_congr {σ α} (B : Backend σ) (cl : Uuid) (f g : Nat → FaultKind) (p : TxnM α) (n : Nat) (st : TxnSt σ)
    (h : ∀ i, n ≤ i → i < (p.runF B cl f n st).2.2 → f i = g i) :
    p.runF B cl f n st = p.runF B cl g n st := by
  induction p generalizing n st with
  | ret a => rfl
  | call c k ih =>
    have hn : f n = g n := by
      apply h n (Nat.le_refl n)
      simp only [TxnM.runF]
      cases stepCallF B cl (f n) c st with
      | abort st' => exact Nat.lt_succ_self n
      | cont r st' => exact runF_index_le B cl f (k r) (n + 1) st'
    simp only [TxnM.runF, ← hn] at h ⊢
    cases hs : stepCallF B cl (f n) c st with
    | abort st' => rfl
    | cont r st' =>
      simp only [hs] at h
      exact ih r (n + 1) st' (fun i hi => h i (Nat.le_of_succ_le hi))

theorem runF_fault_none {σ α} (B : Backend σ) (cl : Uuid) (faults : Nat → FaultKind) (p : TxnM α) (n : Nat) (st : TxnSt σ)
    (h : ∃ i, n ≤ i ∧ i < (p.runF B cl faults n st).2.2 ∧ faults i ≠ .ok) :
    (p.runF B cl faults n st).1 = none := by
  induction p generalizing n st with
  | ret a =>
    obtain ⟨i, h1, h2, _⟩ := h
    exact absurd h2 (Nat.not_lt.2 h1)
  | call c k ih =>
    simp only [TxnM.runF] at h ⊢
    cases hf : faults n with
    | failBefore => rfl
    | failAfter => simp only [stepCallF]; cases stepCall B cl c st <;> rfl
    | ok =>
      cases hs : stepCallF B cl .ok c st with
      | abort st' => rfl
      | cont r st' =>
        simp only [hf, hs] at h
        obtain ⟨i, h1, h2, h3⟩ := h
        refine ih r (n + 1) st' ⟨i, Nat.lt_of_le_of_ne h1 ?_, h2, h3⟩
        rintro rfl; exact h3 hf

/-- under a fault oracle a call other than `commit` aborts, or (only when there is no fault) continues as the plain step -/
theorem stepCallF_cases {σ} (B : Backend σ) (cl : Uuid) (fk : FaultKind) (c : Call) (d w : σ)
    (hc : c ≠ .commit) :
    (∃ w', stepCallF B cl fk c ⟨d, w, false⟩ = .abort ⟨d, w', false⟩) ∨
    (∃ r w', fk = .ok ∧ stepCallF B cl fk c ⟨d, w, false⟩ = .cont r ⟨d, w', false⟩) := by
  obtain ⟨w', h | ⟨r, h⟩⟩ := stepCall_noCommit B cl c hc d w
  · cases fk with
    | ok => exact .inl ⟨w', h⟩
    | failBefore => exact .inl ⟨w, rfl⟩
    | failAfter => exact .inl ⟨w', by simp only [stepCallF, h]⟩
  · cases fk with
    | ok => exact .inr ⟨r, w', rfl, h⟩
    | failBefore => exact .inl ⟨w, rfl⟩
    | failAfter => exact .inl ⟨w', by simp only [stepCallF, h]⟩

theorem stepCallF_commit {σ} (B : Backend σ) (hB : CommitId B) (cl : Uuid) (fk : FaultKind) (st : TxnSt σ) :
    stepCallF B cl fk .commit st = match fk with
      | .failBefore => .abort st
      | .failAfter => .abort ⟨st.working, st.working, true⟩
      | .ok => .cont () ⟨st.working, st.working, true⟩ := by
  cases fk <;> simp [stepCallF, stepCall_commit B cl st (hB cl st.working)]

/-- where the durable copy can end up: this is the induction over `CommitLast` -/
theorem fault_durable {σ α} (B : Backend σ) (hB : CommitId B) (cl : Uuid) (faults : Nat → FaultKind)
    (p : TxnM α) (hp : CommitLast p) (n : Nat) (d w : σ) :
    let r0 := p.runF B cl noFault n ⟨d, w, false⟩
    let r  := p.runF B cl faults  n ⟨d, w, false⟩
    (r.2.1.durable = d ∨ r.2.1.durable = r0.2.1.durable) ∧ (r.2.1.committed = false → r.2.1.durable = d) := by
  induction hp generalizing n w with
  | ret a => exact ⟨.inl rfl, fun _ => rfl⟩
  | commit k a h =>
    simp only [TxnM.runF, noFault, stepCallF_commit B hB, h]
    cases faults n with
    | ok => exact ⟨.inr rfl, fun h => nomatch h⟩
    | failBefore => exact ⟨.inl rfl, fun _ => rfl⟩
    | failAfter => exact ⟨.inr rfl, fun h => nomatch h⟩
  | call c k hc h ih =>
    simp only [TxnM.runF]
    rcases stepCallF_cases B cl (faults n) c d w hc with ⟨w', hab⟩ | ⟨r, w', hok, hco⟩
    · rw [hab]; exact ⟨.inl rfl, fun _ => rfl⟩
    · rw [show noFault n = faults n from hok.symm, hco]; exact ih r (n + 1) w'

/-- Generic fault safety of one transaction body. `d` = durable state at begin, `w` = working copy. -/
theorem fault_safety {σ α} (B : Backend σ) (hB : CommitId B) (cl : Uuid) (faults : Nat → FaultKind)
    (p : TxnM α) (hp : CommitLast p) (n : Nat) (d w : σ) :
    let r0 := p.runF B cl noFault n ⟨d, w, false⟩
    let r  := p.runF B cl faults  n ⟨d, w, false⟩
    -- the durable state is the old one or the one of the fault-free run
    (r.2.1.durable = d ∨ r.2.1.durable = r0.2.1.durable) ∧
    -- a value is returned only if the fault-free run returns the same value, with the same durable state
    (∀ a, r.1 = some a → r0.1 = some a ∧ r.2.1.durable = r0.2.1.durable) ∧
    -- any fault among the consumed call indices makes the outcome an error
    ((∃ i, n ≤ i ∧ i < r.2.2 ∧ faults i ≠ .ok) → r.1 = none) ∧
    -- a value is returned without commit only if nothing durable changed
    (∀ a, r.1 = some a → r.2.1.committed = false → r.2.1.durable = d) := by
  intro r0 r
  have hd := fault_durable B hB cl faults p hp n d w
  have hnone := runF_fault_none B cl faults p n ⟨d, w, false⟩
  refine ⟨hd.1, fun a ha => ?_, hnone, fun _ _ => hd.2⟩
  -- a value came back, so no consumed index was faulty, so this is the fault-free run
  have e : r = r0 := runF_congr B cl faults noFault p n _ fun i h1 h2 =>
    Decidable.byContradiction fun hne => by
      have := hnone ⟨i, h1, h2, hne⟩
      exact absurd (this ▸ ha) (by simp)
  exact e ▸ ⟨ha, rfl⟩

theorem runF_noFault {σ α} (B : Backend σ) (cl : Uuid) (p : TxnM α) (n : Nat) (st : TxnSt σ) :
    (p.runF B cl noFault n st).1 = (p.runSt B cl st).1 ∧
    (p.runF B cl noFault n st).2.1 = (p.runSt B cl st).2 := by
  induction p generalizing n st with
  | ret a => exact ⟨rfl, rfl⟩
  | call c k ih =>
    simp only [TxnM.runF, TxnM.runSt, noFault, stepCallF]
    cases stepCall B cl c st with
    | abort st' => exact ⟨rfl, rfl⟩
    | cont r st' => exact ih r (n+1) st'

theorem commitId_sql : CommitId SqlB := fun _ _ => rfl
theorem commitId_mem : CommitId MemB := fun _ _ => rfl

end Tcs
