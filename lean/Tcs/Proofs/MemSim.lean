import Tcs.Proofs.ASExec
namespace Tcs

/-! Simulation of the in-memory backend `Mem` by the abstract storage `AS`: the four HashMaps are association lists,
    so every call is a fact about `alLookup` / `alInsert`; `Mem.Rep` says that `children` is the parent index of
    `versions`, that keys are distinct and that a version is filed under its own id. -/

section AL
variable {κ ν : Type} [DecidableEq κ]

theorem alLookup_nil (k : κ) : alLookup ([] : List (κ × ν)) k = none := rfl

theorem alLookup_cons (e : κ × ν) (m : List (κ × ν)) (k : κ) :
    alLookup (e :: m) k = if e.1 = k then some e.2 else alLookup m k := by
  unfold alLookup
  by_cases h : e.1 = k <;> simp [h]

theorem alLookup_eq_none {m : List (κ × ν)} {k : κ} : alLookup m k = none ↔ ∀ e ∈ m, e.1 ≠ k := by
  simp [alLookup, Option.map_eq_none_iff]

theorem alLookup_append_none (m : List (κ × ν)) (k k' : κ) (v : ν) :
    alLookup (m ++ [(k, v)]) k' = (alLookup m k').or (if k' = k then some v else none) := by
  induction m with
  | nil =>
    simp only [List.nil_append, alLookup_cons, alLookup_nil]
    by_cases h : k = k'
    · simp [h]
    · have : ¬ k' = k := fun h' => h h'.symm
      simp [h, this]
  | cons e m ih =>
    simp only [List.cons_append, alLookup_cons, ih]
    by_cases h : e.1 = k' <;> simp [h]

theorem alLookup_map_replace (m : List (κ × ν)) (k k' : κ) (v : ν) :
    alLookup (m.map (fun e => if e.1 = k then (k, v) else e)) k' =
      if k' = k then (alLookup m k).map (fun _ => v) else alLookup m k' := by
  induction m with
  | nil => simp [alLookup_nil]
  | cons e m ih =>
    simp only [List.map_cons, alLookup_cons, ih]
    by_cases h1 : e.1 = k
    · by_cases h2 : k' = k
      · subst h2; simp [h1]
      · have : ¬ k = k' := fun h' => h2 h'.symm
        have h3 : ¬ e.1 = k' := by rw [h1]; exact this
        simp [h1, h2, this]
    · by_cases h2 : k' = k
      · subst h2; simp [h1]
      · simp [h1, h2]

theorem alLookup_alInsert (m : List (κ × ν)) (k k' : κ) (v : ν) :
    alLookup (alInsert m k v).1 k' = if k' = k then some v else alLookup m k' := by
  unfold alInsert
  cases h : alLookup m k with
  | none =>
    simp only [alLookup_append_none]
    by_cases h2 : k' = k
    · subst h2; simp [h]
    · simp [h2]
  | some old =>
    simp only [alLookup_map_replace, h]
    by_cases h2 : k' = k <;> simp [h2]

theorem alLookup_of_mem {m : List (κ × ν)} (hnd : (m.map (·.1)).Nodup) {e : κ × ν} (he : e ∈ m) :
    alLookup m e.1 = some e.2 := by
  rw [alLookup, find?_key_of_mem hnd he]
  rfl

theorem alInsert_of_none {m : List (κ × ν)} {k : κ} (v : ν) (h : alLookup m k = none) :
    alInsert m k v = (m ++ [(k, v)], none) := by
  unfold alInsert; rw [h]

end AL

abbrev MemCall := SimCall MemB Mem.abs Mem.Rep

theorem mem_getClient (cl : Uuid) : MemCall cl .getClient :=
  .of_read (fun _ => rfl) (fun _ => rfl) fun _ _ _ h => h

theorem mem_commit (cl : Uuid) : MemCall cl .commit :=
  .of_read (fun _ => rfl) (fun _ => rfl) fun _ _ _ h => h

/-- the lookup by key `(cl, v)` and the lookup "id = v among the versions of `cl`" test the same thing on every
    entry, because an entry is filed under its own id (`Mem.Rep`, third part) -/
theorem mem_getVersion (cl v : Uuid) : MemCall cl (.getVersion v) :=
  .of_read (fun _ => rfl) (fun _ => rfl) fun s hrep r h => by
    rw [← h]
    refine congrArg Except.ok ((congrArg _ (find?_congr fun e he => ?_)).trans (find?_filter_map s.versions (·.1.1 = cl) (·.2) (·.id = v)))
    simp [hrep.2.2 e he, Prod.ext_iff, And.comm]

/-- the parent index followed by the lookup by id finds the first version of `cl` with parent `p` -/
theorem mem_child (vs : List ((Uuid × Uuid) × Version)) (hnd : (vs.map (·.1)).Nodup) (cl p : Uuid) :
    (match alLookup (vs.map fun e => ((e.1.1, e.2.parent), e.1.2)) (cl, p) with
      | some vid => alLookup vs (cl, vid)
      | none => none) = (vs.find? fun e => e.2.parent = p ∧ e.1.1 = cl).map (·.2) := by
  have : alLookup (vs.map fun e => ((e.1.1, e.2.parent), e.1.2)) (cl, p) =
      (vs.find? fun e => e.2.parent = p ∧ e.1.1 = cl).map (·.1.2) := by
    simp [alLookup, List.find?_map, Function.comp_def, And.comm]
  rw [this]
  cases hf : vs.find? (fun e => e.2.parent = p ∧ e.1.1 = cl) with
  | none => rfl
  | some e =>
    have h1 : e.1.1 = cl := (by simpa using List.find?_some hf : _ ∧ _).2
    exact h1 ▸ alLookup_of_mem hnd (List.mem_of_find?_eq_some hf)

theorem mem_getByParent (cl p : Uuid) : MemCall cl (.getByParent p) := by
  intro s r a' hrep h
  cases h
  have key := mem_child s.versions hrep.2.1 cl p
  rw [← hrep.1] at key
  simp only [MemB, Mem.exec]
  cases hl : alLookup s.children (cl, p) <;> rw [hl] at key <;>
    exact ⟨congrArg Except.ok (key.trans (find?_filter_map s.versions (·.1.1 = cl) (·.2) (·.parent = p))), rfl, hrep⟩

theorem Mem.abs_st (m : Mem) (d : Uuid) : (Mem.abs m).st d =
    { client := alLookup m.clients d, data := alLookup m.snapshots d,
      versions := (m.versions.filter (·.1.1 = d)).map (·.2) } := rfl

theorem mem_newClient (cl l : Uuid) : MemCall cl (.newClient l) := by
  intro s r a' hrep h
  obtain ⟨hc, rfl⟩ := AS.newClient_ok h
  have hl : alLookup s.clients cl = none := hc
  simp only [MemB, Mem.exec, hl]
  refine ⟨trivial, AS.eq_upd ?_ (fun d hd => ?_) rfl, hrep⟩
  · simp only [Mem.abs_st, alLookup_alInsert, if_true]
  · simp only [Mem.abs_st, alLookup_alInsert, hd, if_false]

theorem mem_setSnapshot (cl : Uuid) (sn : Snapshot) (dat : Bytes) : MemCall cl (.setSnapshot sn dat) := by
  intro s r a' hrep h
  obtain ⟨c, hc, rfl⟩ := AS.setSnapshot_ok h
  have hl : alLookup s.clients cl = some c := hc
  simp only [MemB, Mem.exec, hl]
  refine ⟨trivial, AS.eq_upd ?_ (fun d hd => ?_) rfl, hrep⟩
  · simp only [Mem.abs_st, alLookup_alInsert, if_true]
  · simp only [Mem.abs_st, alLookup_alInsert, hd, if_false]

theorem mem_getSnapshotData (cl v : Uuid) : MemCall cl (.getSnapshotData v) := by
  intro s r a' hrep h
  obtain ⟨c, d, hc, hv, hd, rfl, rfl⟩ := AS.getSnapshotData_ok h
  have hl : alLookup s.clients cl = some c := hc
  have hd' : alLookup s.snapshots cl = some d := hd
  simp only [MemB, Mem.exec, hl, hv, hd', ne_eq, not_true, if_false]
  exact ⟨trivial, trivial, hrep⟩

theorem mem_addVersion (cl v p : Uuid) (seg : Bytes) : MemCall cl (.addVersion v p seg) := by
  intro s r a' hrep h
  obtain ⟨c, hc, hv, hp, rfl⟩ := AS.addVersion_ok h
  have hl : alLookup s.clients cl = some c := hc
  -- both index lookups miss
  have hch : alLookup s.children (cl, p) = none := by
    rw [hrep.1, alLookup_eq_none]
    intro e he heq
    obtain ⟨x, hx, rfl⟩ := List.mem_map.1 he
    cases heq
    exact hp x.2 (List.mem_map.2 ⟨x, List.mem_filter.2 ⟨hx, by simp⟩, rfl⟩) rfl
  have hvs : alLookup s.versions (cl, v) = none :=
    alLookup_eq_none.2 fun e he heq => hv (List.mem_map.2 ⟨e, he, by rw [heq]⟩)
  simp only [MemB, Mem.exec, hl, alInsert_of_none _ hch, alInsert_of_none _ hvs, Option.isSome_none, Bool.false_eq_true,
    if_false]
  refine ⟨trivial, AS.eq_upd ?_ (fun d hd => ?_) ?_, ?_, ?_, ?_⟩
  · simp [Mem.abs_st, alLookup_alInsert, List.filter_append]; rfl
  · simp [Mem.abs_st, alLookup_alInsert, List.filter_append, hd, Ne.symm hd]
  · simp [Mem.abs]
  · simp [hrep.1]
  · rw [List.map_append, List.nodup_append]
    refine ⟨hrep.2.1, by simp, fun a ha b hb => ?_⟩
    obtain ⟨e, he, rfl⟩ := List.mem_map.1 ha
    cases List.mem_singleton.1 hb
    exact alLookup_eq_none.1 hvs e he
  · intro e he
    rcases List.mem_append.1 he with he | he
    · exact hrep.2.2 e he
    · cases List.mem_singleton.1 he; rfl

theorem memSim : Sim MemB Mem.abs Mem.Rep := by
  constructor
  intro cl c
  cases c with
  | getClient => exact mem_getClient cl
  | newClient l => exact mem_newClient cl l
  | setSnapshot sn d => exact mem_setSnapshot cl sn d
  | getSnapshotData v => exact mem_getSnapshotData cl v
  | getByParent p => exact mem_getByParent cl p
  | getVersion v => exact mem_getVersion cl v
  | addVersion v p seg => exact mem_addVersion cl v p seg
  | commit => exact mem_commit cl

theorem memRep_init : Mem.Rep ({} : Mem) := ⟨rfl, List.nodup_nil, fun _ he => nomatch he⟩

theorem memAbs_init : Mem.abs ({} : Mem) = ({} : AS) := rfl

end Tcs
