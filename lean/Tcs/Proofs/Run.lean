import Tcs.Model.History
namespace Tcs

/-! Running the programs of the model on ANY backend: `stepCall` as one equation, the equations of `TxnM.runSt` for
    `ret`, `call` and `bind`, and what `ReqM.runC` does at a transaction that completes. No simulation, no
    specification: the modules that compare two runs (`SimGen`, `NoWrite`, `ASRun`) start from here. -/

/-- the transaction state after a call that left the working copy at `w'` -/
def nextSt {σ : Type} (c : Call) (st : TxnSt σ) (w' : σ) : TxnSt σ :=
  match c with
  | .commit => { durable := w', working := w', committed := true }
  | _ => { st with working := w' }

theorem nextSt_working {σ : Type} (c : Call) (st : TxnSt σ) (w' : σ) : (nextSt c st w').working = w' := by
  cases c <;> rfl

theorem nextSt_durable {σ : Type} (c : Call) (st : TxnSt σ) (w' : σ) :
    (nextSt c st w').durable = w' ∨ (nextSt c st w').durable = st.durable := by
  cases c <;> simp [nextSt]

/-- `stepCall` in one equation: run the call on the working copy, move to `nextSt`, continue or abort -/
theorem stepCall_eq {σ : Type} (B : Backend σ) (cl : Uuid) (c : Call) (st : TxnSt σ) :
    stepCall B cl c st =
      match (B.exec cl c st.working).1 with
      | .ok r => .cont r (nextSt c st (B.exec cl c st.working).2)
      | .error _ => .abort (nextSt c st (B.exec cl c st.working).2) := by
  unfold stepCall nextSt
  cases B.exec cl c st.working with
  | mk r w => cases r <;> cases c <;> rfl

theorem stepCall_error {σ : Type} (B : Backend σ) (cl : Uuid) (c : Call) (st : TxnSt σ) (e : StorageErr)
    (h : (B.exec cl c st.working).1 = .error e) :
    stepCall B cl c st = .abort (nextSt c st (B.exec cl c st.working).2) := by
  rw [stepCall_eq, h]

theorem stepCall_ok {σ : Type} (B : Backend σ) (cl : Uuid) (c : Call) (st : TxnSt σ) (r : c.Resp)
    (h : (B.exec cl c st.working).1 = .ok r) :
    stepCall B cl c st = .cont r (nextSt c st (B.exec cl c st.working).2) := by
  rw [stepCall_eq, h]

theorem stepCall_commit {σ} (B : Backend σ) (cl : Uuid) (st : TxnSt σ)
    (h : B.exec cl .commit st.working = (.ok (), st.working)) :
    stepCall B cl .commit st = .cont () ⟨st.working, st.working, true⟩ := by
  simp [stepCall, h]

theorem stepCall_noCommit {σ} (B : Backend σ) (cl : Uuid) (c : Call) (hc : c ≠ .commit) (d w : σ) :
    ∃ w', (stepCall B cl c ⟨d, w, false⟩ = .abort ⟨d, w', false⟩) ∨
      ∃ r, stepCall B cl c ⟨d, w, false⟩ = .cont r ⟨d, w', false⟩ := by
  cases c with
  | commit => exact absurd rfl hc
  | _ =>
    unfold stepCall
    rcases B.exec cl _ w with ⟨_ | r, w'⟩
    · exact ⟨w', .inl rfl⟩
    · exact ⟨w', .inr ⟨r, rfl⟩⟩

@[simp] theorem runSt_ret {σ α} (B : Backend σ) (cl : Uuid) (a : α) (st : TxnSt σ) :
    (TxnM.ret a).runSt B cl st = (some a, st) := rfl

theorem runSt_call_cont {σ α} (B : Backend σ) (cl : Uuid) (c : Call) (k : c.Resp → TxnM α) (st st' : TxnSt σ) (r : c.Resp)
    (h : stepCall B cl c st = .cont r st') : (TxnM.call c k).runSt B cl st = (k r).runSt B cl st' := by
  rw [TxnM.runSt, h]

theorem runSt_call_abort {σ α} (B : Backend σ) (cl : Uuid) (c : Call) (k : c.Resp → TxnM α) (st st' : TxnSt σ)
    (h : stepCall B cl c st = .abort st') : (TxnM.call c k).runSt B cl st = (none, st') := by
  rw [TxnM.runSt, h]

theorem runSt_bind {σ α β} (B : Backend σ) (cl : Uuid) (p : TxnM α) (f : α → TxnM β) (st : TxnSt σ) :
    (p.bind f).runSt B cl st =
      match p.runSt B cl st with
      | (some a, st') => (f a).runSt B cl st'
      | (none, st') => (none, st') := by
  induction p generalizing st with
  | ret a => rfl
  | call c k ih =>
    simp only [TxnM.bind, TxnM.runSt]
    cases stepCall B cl c st with
    | abort st' => rfl
    | cont r st' => exact ih r st'

/-- where both copies end up equal (nothing written, or committed last) the mode makes no difference -/
theorem run_of_runSt {σ α} (B : Backend σ) (mode : TxnMode) (cl : Uuid) (p : TxnM α) (s s' : σ) (r : Option α) (cm : Bool)
    (h : p.runSt B cl ⟨s, s, false⟩ = (r, ⟨s', s', cm⟩)) : p.run B mode cl s = (r, s') := by
  rw [TxnM.run, h]
  cases mode <;> rfl

theorem runC_txn {σ α β} (B : Backend σ) (mode : TxnMode) (cl : Uuid) (body : TxnM β) (k : Option β → ReqM α) (s s' : σ)
    (r : β) (h : body.run B mode cl s = (some r, s')) : (ReqM.txn cl body k).runC B mode s = (k (some r)).runC B mode s' := by
  simp only [ReqM.runC, h, Option.isSome_some, Bool.and_true]

/-- the answer of a single-transaction request (`one`), from its body's result -/
def outOf {α} (f : α → Out) : Except SrvErr α → Out
  | .ok x => f x
  | .error _ => .noSuchClient
@[simp] theorem outOf_ok {α} (f : α → Out) (x : α) : outOf f (.ok x) = f x := rfl
@[simp] theorem outOf_error {α} (f : α → Out) (e : SrvErr) : outOf f (.error e) = .noSuchClient := rfl

theorem runC_one {σ β} (B : Backend σ) (mode : TxnMode) (c : Uuid) (body : TxnM (Except SrvErr β)) (f : β → Out) (s : σ) :
    (one c body f).runC B mode s =
      (match (body.run B mode c s).1 with | none => .storageError | some x => outOf f x,
        (body.run B mode c s).2, (body.run B mode c s).1.isSome) := by
  simp only [one, ReqM.runC]
  cases (body.run B mode c s).1 with
  | none => rfl
  | some x => rcases x with ⟨⟨⟩⟩ | y <;> rfl

end Tcs
