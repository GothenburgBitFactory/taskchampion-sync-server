import Tcs.Proofs.ASRun
namespace Tcs

/-! Request level: under the invariant and freshness, every protocol request on the abstract
    storage completes without a storage error and computes `asStep`. -/

theorem as_create (S : Sys) (hS : S.ensure = ensureClientFixed) (mode : TxnMode) (cl : Uuid) (a : AS) :
    ((Ev.create cl).req S).runC ASB mode a = ((asStep S (.create cl) a).1, (asStep S (.create cl) a).2, true) := by
  obtain ⟨r, hr, -⟩ := (as_ensure S cl a).run mode
  rw [Ev.req, hS, runC_txn ASB mode cl _ _ a _ r hr]
  rfl

/-- `avReq … (fuel + 1)` on a known client starts with the transaction `Server::add_version`, which computes the
    library request, and then answers with its outcome -/
theorem avReq_known (S : Sys) (mode : TxnMode) (cl p : Uuid) (seg : Bytes) (n : Uuid) (now : Int) (fuel : Nat) (a : AS)
    (hc : (a.st cl).client ≠ none) (hx : CInv (a.st cl)) (hid : n ∉ a.ids) :
    ∃ k r, avReq S.cfg S.ensure cl p seg n now (fuel + 1) = .txn cl (addVersion S.cfg p seg n now) k ∧
      (addVersion S.cfg p seg n now).run ASB mode cl a = (some r, (asStep S (.avLib cl p seg n now) a).2) ∧
      k (some r) = .done (asStep S (.avLib cl p seg n now) a).1 := by
  obtain ⟨r, hr, ho⟩ := (as_addVersion S cl p seg n now a hx hid).run mode
  refine ⟨_, r, rfl, hr, ?_⟩
  rw [← ho]
  rcases r with ⟨⟨⟩⟩ | ⟨⟨v⟩ | l, u⟩
  · exact absurd ho.symm (avLib_found S cl p seg n now a hc)
  · rfl
  · rfl

theorem as_avReq_some (S : Sys) (mode : TxnMode) (cl p : Uuid) (seg : Bytes) (n : Uuid) (now : Int) (fuel : Nat) (a : AS)
    (hc : (a.st cl).client ≠ none) (hx : CInv (a.st cl)) (hid : n ∉ a.ids) :
    (avReq S.cfg S.ensure cl p seg n now (fuel + 1)).runC ASB mode a =
      ((asStep S (.avLib cl p seg n now) a).1, (asStep S (.avLib cl p seg n now) a).2, true) := by
  obtain ⟨k, r, hprog, hr, hk⟩ := avReq_known S mode cl p seg n now fuel a hc hx hid
  rw [hprog, runC_txn ASB mode cl _ k a _ r hr, hk]
  rfl

/-- AddVersion through the handler: creates an unknown client, then behaves like the library call -/
theorem as_av (S : Sys) (hS : S.ensure = ensureClientFixed) (mode : TxnMode) (cl p : Uuid) (seg : Bytes) (n : Uuid)
    (now : Int) (a : AS) (hx : CInv (a.st cl)) (hid : n ∉ a.ids) :
    ((Ev.av cl p seg n now).req S).runC ASB mode a =
      ((asStep S (.av cl p seg n now) a).1, (asStep S (.av cl p seg n now) a).2, true) := by
  rw [asStep_av]
  cases hc : (a.st cl).client with
  | some c =>
    rw [asStep_unchanged S (.create cl) a cl rfl (by simp only [cstep, cCreate, hc]) rfl]
    exact as_avReq_some S mode cl p seg n now 2 a (hc ▸ Option.some_ne_none c) hx hid
  | none =>
    -- first transaction: no such client; second: create; third: the add
    obtain ⟨r2, h2, -⟩ := (as_ensure S cl a).run mode
    rw [← hS] at h2
    rw [Ev.req, avReq, runC_txn ASB mode cl _ _ a a _ (as_addVersion_none S.cfg cl p seg n now a hc mode)]
    rw [runC_txn ASB mode cl _ _ a _ r2 h2]
    refine as_avReq_some S mode cl p seg n now 1 _ ?_ ?_ ?_
    · simp only [asStep, Ev.client, cstep, cCreate, hc, upd_same]; exact Option.some_ne_none _
    · simp only [asStep, Ev.client, cstep, upd_same]; exact cinv_cCreate _ hx
    · simpa only [asStep, Ev.client, cstep, addedId, List.append_nil] using hid

theorem as_req (S : Sys) (hS : S.ensure = ensureClientFixed) (mode : TxnMode) (e : Ev) (a : AS) (hinv : Inv a)
    (hf : ∀ n, e.drawn = some n → n ∉ a.ids) :
    (e.req S).runC ASB mode a = ((asStep S e a).1, (asStep S e a).2, true) := by
  cases e with
  | av cl p seg n now => exact as_av S hS mode cl p seg n now a (hinv.each cl) (hf n rfl)
  | create cl => exact as_create S hS mode cl a
  | reopen => rfl
  | avLib cl p seg n now => exact (as_addVersion S cl p seg n now a (hinv.each cl) (hf n rfl)).runC mode
  | gcv cl p => rw [asStep_unchanged S _ a cl rfl rfl rfl]; exact (as_getChildVersion cl p a).runC mode
  | «as» cl v d now => exact (as_addSnapshot S cl v d now a).runC mode
  | gs cl => rw [asStep_unchanged S _ a cl rfl rfl rfl]; exact (as_getSnapshot cl a (hinv.each cl)).runC mode

end Tcs
