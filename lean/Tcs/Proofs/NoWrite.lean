import Tcs.Proofs.Run
import Tcs.Proofs.TxnShape
namespace Tcs

/-! Table level: a transaction that returns a non-mutating outcome has executed only read calls, and
    read calls leave the backend's concrete state (tables / maps) exactly as it was. Purely
    syntactic: no invariant, no reachability, any state. -/

variable {σ : Type}

def ReadsPure (B : Backend σ) : Prop := ∀ (cl : Uuid) (c : Call) (s : σ), c.isRead = true → (B.exec cl c s).2 = s

theorem readsPure_sql : ReadsPure SqlB := by
  intro cl c s hc
  cases c <;> simp [Call.isRead] at hc <;> simp only [SqlB, Sql.exec]
  · split <;> (try split) <;> (try split) <;> rfl

theorem readsPure_mem : ReadsPure MemB := by
  intro cl c s hc
  cases c <;> simp [Call.isRead] at hc <;> simp only [MemB, Mem.exec]
  · split <;> (try split) <;> rfl
  · split <;> rfl

theorem stepCall_read (B : Backend σ) (hB : ReadsPure B) (cl : Uuid) (c : Call) (hc : c.isRead = true) (st : TxnSt σ) :
    stepCall B cl c st = match (B.exec cl c st.working).1 with | .error _ => .abort st | .ok r => .cont r st := by
  have hn : nextSt c st st.working = st := by cases c <;> first | rfl | cases hc
  rw [stepCall_eq, hB cl c st.working hc, hn]
  cases (B.exec cl c st.working).1 <;> rfl

/-- a program that returned a value outside `P` has not changed the state -/
theorem runSt_readOnly {α : Type} (B : Backend σ) (hB : ReadsPure B) (cl : Uuid) (P : α → Prop) (p : TxnM α)
    (hp : ReadOnlyUnless P p) (st st' : TxnSt σ) (a : α) (h : p.runSt B cl st = (some a, st')) (ha : ¬ P a) : st' = st := by
  induction hp generalizing st with
  | ret x => exact (congrArg Prod.snd h).symm
  | read c k hc _ ih =>
    simp only [TxnM.runSt, stepCall_read B hB cl c hc st] at h
    cases hx : (B.exec cl c st.working).1 with
    | error e => simp [hx] at h
    | ok r => simp only [hx] at h; exact ih r st h
  | write c _ x hx =>
    -- whatever the two calls do, the value returned is `x`
    simp only [TxnM.runSt] at h
    repeat' split at h
    all_goals cases h
    exact absurd hx ha

theorem run_readOnly {α : Type} (B : Backend σ) (hB : ReadsPure B) (mode : TxnMode) (cl : Uuid) (P : α → Prop) (p : TxnM α)
    (hp : ReadOnlyUnless P p) (s s' : σ) (a : α) (h : p.run B mode cl s = (some a, s')) (ha : ¬ P a) : s' = s := by
  have h1 : (p.runSt B cl ⟨s, s, false⟩).1 = some a := congrArg Prod.fst h
  have h2 : (p.runSt B cl ⟨s, s, false⟩).2.finish mode = s' := congrArg Prod.snd h
  have h3 : (p.runSt B cl ⟨s, s, false⟩).2 = ⟨s, s, false⟩ := runSt_readOnly B hB cl P p hp _ _ a (Prod.ext h1 rfl) ha
  rw [← h2, h3]
  cases mode <;> rfl

end Tcs
