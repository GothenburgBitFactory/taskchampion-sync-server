namespace Tcs

/-! Facts about lists that core does not have. -/

/-- case split from the right (core has no `List.reverseRecOn`) -/
theorem list_snoc_cases {α : Type _} (l : List α) : l = [] ∨ ∃ xs x, l = xs ++ [x] := by
  rcases List.eq_nil_or_concat l with h | ⟨xs, x, h⟩
  · exact Or.inl h
  · exact Or.inr ⟨xs, x, by simpa using h⟩

theorem find?_congr {α} {p q : α → Bool} {l : List α} (h : ∀ x ∈ l, p x = q x) : l.find? p = l.find? q := by
  induction l with
  | nil => rfl
  | cons x xs ih =>
    simp only [List.find?_cons, h x List.mem_cons_self, ih fun y hy => h y (List.mem_cons_of_mem _ hy)]

theorem find?_filter_map {α β} (l : List α) (k : α → Prop) [DecidablePred k] (f : α → β) (q : β → Prop) [DecidablePred q] :
    (l.find? fun x => q (f x) ∧ k x).map f = ((l.filter (k ·)).map f).find? (q ·) := by
  rw [List.find?_map, List.find?_filter]
  congr 2
  simp [And.comm]

theorem find?_key_of_mem {α κ} [DecidableEq κ] {key : α → κ} {l : List α} (hnd : (l.map key).Nodup) {x : α} (hx : x ∈ l) :
    l.find? (fun y => key y = key x) = some x := by
  induction l with
  | nil => cases hx
  | cons y l ih =>
    rw [List.map_cons, List.nodup_cons] at hnd
    rw [List.find?_cons]
    rcases List.mem_cons.1 hx with rfl | hx'
    · simp
    · have hne : key y ≠ key x := fun he => hnd.1 (he ▸ List.mem_map_of_mem hx')
      simp only [hne, decide_false]
      exact ih hnd.2 hx'

theorem idxOf_eq_of_getElem? {α} [BEq α] [LawfulBEq α] {l : List α} (hn : l.Nodup) {i : Nat} {a : α}
    (h : l[i]? = some a) : l.idxOf a = i := by
  obtain ⟨hi, rfl⟩ := List.getElem?_eq_some_iff.1 h
  exact hn.idxOf_getElem i hi

theorem getElem?_filterMap_of_some {α β} (f : α → Option β) (l : List α) (h : ∀ x ∈ l, ∃ y, f x = some y) (i : Nat) :
    (l.filterMap f)[i]? = l[i]?.bind f := by
  induction l generalizing i with
  | nil => rfl
  | cons x xs ih =>
    obtain ⟨y, hy⟩ := h x List.mem_cons_self
    rw [List.filterMap_cons_some hy]
    cases i with
    | zero => exact hy.symm
    | succ j => exact ih (fun z hz => h z (List.mem_cons_of_mem _ hz)) j

theorem map_eq_map_of_key {α β γ δ : Type _} {p : α → γ} {q : β → γ} {f : α → δ} {g : β → δ}
    (hfg : ∀ a b, p a = q b → f a = g b) {l₁ : List α} {l₂ : List β} (hl : l₁.map p = l₂.map q) :
    l₁.map f = l₂.map g := by
  induction l₁ generalizing l₂ with
  | nil => rw [List.map_eq_nil_iff.mp hl.symm]; rfl
  | cons a l₁ ih =>
    cases l₂ with
    | nil => cases hl
    | cons b l₂ =>
      simp only [List.map_cons, List.cons.injEq] at hl ⊢
      exact ⟨hfg a b hl.1, ih hl.2⟩

theorem getElem?_three {α} (a b c : α) (t : Nat) (e : α) (h : [a, b, c][t]? = some e) :
    (t = 0 ∧ e = a) ∨ (t = 1 ∧ e = b) ∨ (t = 2 ∧ e = c) := by
  rcases t with _ | _ | _ | t
  · exact .inl ⟨rfl, (Option.some.inj h).symm⟩
  · exact .inr (.inl ⟨rfl, (Option.some.inj h).symm⟩)
  · exact .inr (.inr ⟨rfl, (Option.some.inj h).symm⟩)
  · cases h

theorem set_get {α} {l : List α} {t u : Nat} {x y : α} (hy : l[t]? = some y) :
    (l.set t x)[u]? = if u = t then some x else l[u]? := by
  have ht : t < l.length := (List.getElem?_eq_some_iff.mp hy).1
  by_cases hut : u = t
  · subst hut; simp [ht]
  · simp [hut, Ne.symm hut]

end Tcs
