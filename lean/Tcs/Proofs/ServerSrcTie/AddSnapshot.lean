import Tcs.Generated.ServerSrc
import Tcs.Generated.ParamsImpl
namespace Tcs

/-! `Server::add_snapshot`: the loop first, then the whole operation. The
    source counts the remaining search length down in an `i64`, the model counts fuel in a `Nat`. -/

theorem snapWalk_succ (v : Uuid) (last : Option Uuid) (fuel : Nat) (vid : Uuid) :
    snapWalk v last (fuel + 1) vid =
      (if vid = v && v ≠ Uuid.nil then .ret true
       else if some vid = last then .ret false
       else if fuel = 0 || vid = Uuid.nil then .ret false
       else .call (.getVersion vid) fun r =>
         match r with
         | some ver => snapWalk v last fuel ver.parent
         | none => .ret false) := by
  rfl

/-- what follows the walk in `add_snapshot`: store the snapshot and commit, or decline -/
def snapCont (v : Uuid) (data : Bytes) (now : Int) (b : Bool) : TxnM (Except SrvErr Bool) :=
  if b then .call (.setSnapshot ⟨v, now, 0⟩ data) fun _ => .call .commit fun _ => .ret (.ok true)
  else .ret (.ok false)

/-- the loop of `add_snapshot`, as generated (budget `k + 1`, enough fuel), is the model's walk followed by the
    accept / decline step -/
theorem serverSrc_loop (n : Nat) (v : Uuid) (data : Bytes) (now : Int) (client : Client) (last : Option Uuid)
    (k fuel : Nat) (vid : Uuid) (hf : k + 1 ≤ fuel) :
    ServerSrc.addSnapshotLoop n v data now client last fuel ((k + 1 : Nat) : Int) vid =
      (snapWalk v last (k + 1) vid).bind (snapCont v data now) := by
  induction fuel generalizing k vid with
  | zero => omega
  | succ f ih =>
    -- the source counts `search_len` down in `i64` and stops at `≤ 0`, the model counts fuel in `Nat` and stops at `= 0`
    have hk : ((k + 1 : Nat) : Int) - 1 ≤ 0 ↔ k = 0 := by omega
    rw [snapWalk_succ]
    simp only [ServerSrc.addSnapshotLoop, hk]
    by_cases h1 : vid = v ∧ ¬ v = Uuid.nil
    · simp [h1, TxnM.bind, snapCont]
    by_cases h2 : some vid = last
    · simp [h1, h2, TxnM.bind, snapCont]
    by_cases h3 : k = 0 ∨ vid = Uuid.nil
    · simp [h1, h2, h3, TxnM.bind, snapCont]
    · obtain ⟨k, rfl⟩ : ∃ j, k = j + 1 := ⟨k - 1, by omega⟩
      have h3' : vid ≠ Uuid.nil := fun h => h3 (.inr h)
      simp [h1, h2, h3', TxnM.bind]
      congr 1; funext r
      cases r with
      | none => rfl
      | some ver => simpa using ih k ver.parent (by omega)

/-- `add_snapshot` as generated from the source is the model's program, for every window ≥ 1. (With a window of 0 the
    source would still accept a snapshot for the latest version itself and the model would not; `serverSrc_addSnapshot_impl`
    below instantiates the window extracted from the source, `Params.impl.searchLen`, which is ≥ 1. That the extracted
    constant is 5 is no Lean theorem: `tools/extract_params.py` compares it with the stated value.) -/
theorem serverSrc_addSnapshot (P : Params) (h1 : 1 ≤ P.searchLen) (v : Uuid) (data : Bytes) (now : Int) :
    ServerSrc.addSnapshot P.searchLen v data now = addSnapshot P v data now := by
  simp only [ServerSrc.addSnapshot, addSnapshot, call, bind, TxnM.bind, pure]
  congr 1; funext r
  cases r with
  | none => rfl
  | some client =>
    by_cases hl : some v = client.snap.map (·.vid)
    · simp [hl]
    · simp only [hl, decide_false, Bool.false_eq_true, ↓reduceIte]
      obtain ⟨k, hk⟩ : ∃ k, P.searchLen = k + 1 := ⟨P.searchLen - 1, by omega⟩
      rw [hk, serverSrc_loop (k + 1) v data now client _ k (k + 1 + 1) client.latest (by omega)]
      congr 1

/-- … in particular for the window extracted from the source -/
theorem serverSrc_addSnapshot_impl (v : Uuid) (data : Bytes) (now : Int) :
    ServerSrc.addSnapshot Params.impl.searchLen v data now = addSnapshot Params.impl v data now :=
  serverSrc_addSnapshot Params.impl (by decide) v data now

end Tcs
