import Tcs.Generated.ServerSrc
namespace Tcs

/-! `get_child_version` step for step, its two reads in the order of the source (the tie that does not depend on that
    order is `GetChildSem.lean`). -/

theorem serverSrc_getChildVersion (p : Uuid) : ServerSrc.getChildVersion p = getChildVersion p := by
  simp only [ServerSrc.getChildVersion, getChildVersion, call, bind, TxnM.bind, pure]
  congr 1

end Tcs
