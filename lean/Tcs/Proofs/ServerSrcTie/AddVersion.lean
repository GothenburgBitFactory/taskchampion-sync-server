import Tcs.Generated.ServerSrc
namespace Tcs

/-! `Server::add_version`. The proof decides the acceptance test by cases on its two comparisons, so it goes through for
    any logically equivalent spelling of the test (`a ≠ nil && p ≠ a`, `!(a == nil || p == a)`, …), not only for the one
    the source uses now. The source computes the two urgencies by two matches on `client.snap`, the model by one
    (`urgency`): the last alternative of the proof. -/

theorem serverSrc_addVersion (cfg : Config) (p : Uuid) (seg : Bytes) (newId : Uuid) (now : Int) :
    ServerSrc.addVersion cfg p seg newId now = addVersion cfg p seg newId now := by
  simp only [ServerSrc.addVersion, addVersion, call, bind, TxnM.bind, pure]
  congr 1; funext r
  cases r with
  | none => rfl
  | some client =>
    by_cases h1 : client.latest = Uuid.nil <;> by_cases h2 : p = client.latest <;>
      simp [h1, h2, urgency] <;>
      (try (first
        | rfl
        | (congr 1; funext _; congr 1; funext _; cases client.snap <;> rfl)))

end Tcs
