import Tcs.Generated.ServerSrc
import Tcs.Model.History
namespace Tcs

/-! source tie, `Server::get_child_version`, **insensitive to the order of its two reads**: on a backend whose two
    look-ups always succeed and change nothing (both shipped backends: `readsOk_sql`, `readsOk_mem`), the program
    translated from the current source and the program of the model return the same value and leave the same
    transaction state, from every state. (GetChildVersion writes nothing, so which of the two reads comes first – or
    whether the second is made at all when there is no such client – is not observable by any property; the exact,
    step-for-step tie of the source as it stands is `ServerSrcTie/GetChild.lean`.) -/

variable {σ : Type}

/-- the two look-ups of GetChildVersion succeed and leave the state alone -/
def ReadsOk (B : Backend σ) : Prop :=
  ∀ (cl : Uuid) (s : σ), (∃ r, B.exec cl .getClient s = (.ok r, s)) ∧ ∀ p, ∃ r, B.exec cl (.getByParent p) s = (.ok r, s)

theorem readsOk_sql : ReadsOk SqlB := by
  intro cl s
  refine ⟨?_, fun p => ?_⟩ <;> simp only [SqlB, Sql.exec] <;> (repeat' split) <;> exact ⟨_, rfl⟩

theorem readsOk_mem : ReadsOk MemB := by
  intro cl s
  refine ⟨?_, fun p => ?_⟩ <;> simp only [MemB, Mem.exec] <;> (repeat' split) <;> exact ⟨_, rfl⟩

theorem serverSrc_getChildVersion_sem (B : Backend σ) (hB : ReadsOk B) (cl p : Uuid) (st : TxnSt σ) :
    (ServerSrc.getChildVersion p).runSt B cl st = (getChildVersion p).runSt B cl st := by
  obtain ⟨⟨r1, h1⟩, h2'⟩ := hB cl st.working
  obtain ⟨r2, h2⟩ := h2' p
  have e1 : stepCall B cl .getClient st = .cont r1 st := by simp [stepCall, h1]
  have e2 : stepCall B cl (.getByParent p) st = .cont r2 st := by simp [stepCall, h2]
  simp only [ServerSrc.getChildVersion, getChildVersion, bind, TxnM.bind, call, pure, TxnM.runSt, e1, e2]
  cases r1 <;> cases r2 <;> simp only [TxnM.runSt, e1, e2] <;> (try split) <;> simp_all [TxnM.runSt]

theorem serverSrc_getChildVersion_sem_sql (cl p : Uuid) (st : TxnSt Sql) :
    (ServerSrc.getChildVersion p).runSt SqlB cl st = (getChildVersion p).runSt SqlB cl st :=
  serverSrc_getChildVersion_sem SqlB readsOk_sql cl p st

theorem serverSrc_getChildVersion_sem_mem (cl p : Uuid) (st : TxnSt Mem) :
    (ServerSrc.getChildVersion p).runSt MemB cl st = (getChildVersion p).runSt MemB cl st :=
  serverSrc_getChildVersion_sem MemB readsOk_mem cl p st

end Tcs
