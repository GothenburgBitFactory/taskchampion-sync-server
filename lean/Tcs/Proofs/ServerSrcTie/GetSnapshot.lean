import Tcs.Generated.ServerSrc
namespace Tcs

theorem serverSrc_getSnapshot : ServerSrc.getSnapshot = getSnapshot := by
  simp only [ServerSrc.getSnapshot, getSnapshot, call, bind, TxnM.bind, pure]
  congr 1; funext r
  cases r with
  | none => rfl
  | some client =>
    simp only []
    cases client.snap with
    | none => rfl
    | some s =>
      simp only []
      congr 1; funext r2
      cases r2 <;> rfl

end Tcs
