import Tcs.Spec.Chain
import Tcs.Proofs.ListLemmas
namespace Tcs

/-! Version chains (`Spec/Chain.lean`). A well-formed chain `WF` splits at any point, and the lookup by parent at a split
    point finds the head of the suffix (`find_parent_split`): the child look-ups and `no_shared_parent` follow from that. The snapshot
    search `walkBack` over the store is the scan `scan` over the ancestor list. -/

/-- well-formed chain: a path from `b`, all of `b :: ids` distinct -/
def WF (b : Uuid) (vs : List Version) : Prop := IsChain b vs ∧ (b :: vids vs).Nodup

@[simp] theorem vids_nil : vids [] = [] := rfl
@[simp] theorem vids_cons (v : Version) (vs : List Version) : vids (v :: vs) = v.id :: vids vs := rfl
@[simp] theorem vids_append (xs ys : List Version) : vids (xs ++ ys) = vids xs ++ vids ys := by
  simp [vids]

theorem mem_vids_of_mem {v : Version} {vs : List Version} (h : v ∈ vs) : v.id ∈ vids vs :=
  List.mem_map.2 ⟨v, h, rfl⟩

theorem wf_nil (b : Uuid) : WF b [] := by simp [WF, IsChain]

theorem wf_cons (b : Uuid) (x : Version) (xs : List Version) :
    WF b (x :: xs) ↔ x.parent = b ∧ b ∉ x.id :: vids xs ∧ WF x.id xs := by
  simp only [WF, IsChain, vids_cons, List.nodup_cons]
  constructor
  · rintro ⟨⟨h1, h2⟩, h3, h4, h5⟩; exact ⟨h1, h3, h2, h4, h5⟩
  · rintro ⟨h1, h3, h2, h4, h5⟩; exact ⟨⟨h1, h2⟩, h3, h4, h5⟩

theorem isChain_append_gen (b : Uuid) (pre suf : List Version) :
    IsChain b (pre ++ suf) ↔ IsChain b pre ∧ IsChain (lastId b pre) suf := by
  induction pre generalizing b with
  | nil => simp [IsChain, lastId]
  | cons x xs ih => simp only [List.cons_append, IsChain, lastId, ih, and_assoc]

theorem lastId_append_gen (b : Uuid) (pre suf : List Version) :
    lastId b (pre ++ suf) = lastId (lastId b pre) suf := by
  induction pre generalizing b with
  | nil => rfl
  | cons x xs ih => simp only [List.cons_append, lastId, ih]

theorem isChain_append (b : Uuid) (vs : List Version) (v : Version) :
    IsChain b (vs ++ [v]) ↔ IsChain b vs ∧ v.parent = lastId b vs := by
  simp [isChain_append_gen, IsChain]

theorem lastId_append (b : Uuid) (vs : List Version) (v : Version) : lastId b (vs ++ [v]) = v.id := by
  simp [lastId_append_gen, lastId]

theorem lastId_mem (b : Uuid) (vs : List Version) : lastId b vs ∈ b :: vids vs := by
  induction vs generalizing b with
  | nil => simp [lastId]
  | cons x xs ih =>
    exact List.mem_cons_of_mem _ (ih x.id)

theorem lastId_mem_vids (b : Uuid) (vs : List Version) (hne : vs ≠ []) : lastId b vs ∈ vids vs := by
  cases vs with
  | nil => exact absurd rfl hne
  | cons x xs => simpa [lastId] using lastId_mem x.id xs

theorem lastId_eq_base_iff (b : Uuid) (vs : List Version) (h : WF b vs) : lastId b vs = b ↔ vs = [] := by
  constructor
  · intro he
    cases hvs : vs with
    | nil => rfl
    | cons x xs =>
      exfalso
      have hm := lastId_mem_vids b vs (by simp [hvs])
      rw [he] at hm
      exact (List.nodup_cons.1 h.2).1 hm
  · rintro rfl; rfl

theorem baseOf_chain (b : Uuid) (vs : List Version) (h : IsChain b vs) (hne : vs ≠ []) : baseOf vs = b := by
  cases vs with
  | nil => exact absurd rfl hne
  | cons x xs => exact h.1

theorem baseOf_append (vs l : List Version) (h : vs ≠ []) : baseOf (vs ++ l) = baseOf vs := by
  cases vs with
  | nil => exact absurd rfl h
  | cons x xs => rfl

theorem parent_mem (b : Uuid) (vs : List Version) (h : IsChain b vs) : ∀ v ∈ vs, v.parent ∈ b :: vids vs := by
  induction vs generalizing b with
  | nil => intro v hv; cases hv
  | cons x xs ih =>
    intro v hv
    rcases List.mem_cons.1 hv with rfl | hv
    · rw [h.1]; exact List.mem_cons_self
    · exact List.mem_cons_of_mem _ (ih x.id h.2 v hv)

/-- every id of a chain (or its base) is the end of a prefix -/
theorem split_at_id (b : Uuid) (vs : List Version) (v : Uuid) (h : v ∈ b :: vids vs) :
    ∃ pre suf, vs = pre ++ suf ∧ v = lastId b pre := by
  rcases List.mem_cons.1 h with rfl | h
  · exact ⟨[], vs, rfl, rfl⟩
  · obtain ⟨x, hx, rfl⟩ := List.mem_map.1 h
    obtain ⟨s, t, rfl⟩ := List.append_of_mem hx
    exact ⟨s ++ [x], t, by simp, (lastId_append b s x).symm⟩

theorem wf_prefix (b : Uuid) (pre suf : List Version) (h : WF b (pre ++ suf)) : WF b pre := by
  refine ⟨((isChain_append_gen b pre suf).1 h.1).1, ?_⟩
  have h2 := h.2
  rw [vids_append, ← List.cons_append] at h2
  exact (List.nodup_append.1 h2).1

theorem wf_suffix (b : Uuid) (pre suf : List Version) (h : WF b (pre ++ suf)) : WF (lastId b pre) suf := by
  induction pre generalizing b with
  | nil => exact h
  | cons x xs ih =>
    rw [List.cons_append, wf_cons] at h
    exact ih x.id h.2.2

theorem wf_append_iff (b : Uuid) (vs : List Version) (v : Version) :
    WF b (vs ++ [v]) ↔ WF b vs ∧ v.parent = lastId b vs ∧ v.id ∉ b :: vids vs := by
  simp only [WF, isChain_append, vids_append, ← List.cons_append, List.nodup_append, vids_cons, vids_nil,
    List.nodup_cons, List.mem_singleton, List.not_mem_nil, not_false_eq_true, List.nodup_nil, and_true, forall_eq,
    true_and]
  constructor
  · rintro ⟨⟨h1, h2⟩, h3, h4⟩
    exact ⟨⟨h1, h3⟩, h2, fun hm => h4 _ hm rfl⟩
  · rintro ⟨⟨h1, h3⟩, h2, h4⟩
    exact ⟨⟨h1, h2⟩, h3, fun a ha he => h4 (he ▸ ha)⟩

theorem wf_append_inv (b : Uuid) (vs : List Version) (v : Version) (h : WF b (vs ++ [v])) :
    WF b vs ∧ v.parent = lastId b vs ∧ v.id ∉ b :: vids vs :=
  (wf_append_iff b vs v).1 h

theorem wf_singleton (v : Version) (h : v.id ≠ v.parent) : WF v.parent [v] :=
  (wf_append_iff v.parent [] v).2 ⟨wf_nil _, rfl, by simpa using h⟩

/-- a chain from its own base, extended at its end: the first version may have any parent but its own id -/
theorem wf_snoc_base (vs : List Version) (v : Version) (h : WF (baseOf vs) vs)
    (hp : vs ≠ [] → v.parent = lastId (baseOf vs) vs) (h1 : v.id ≠ v.parent) (h2 : v.id ∉ vids vs)
    (h3 : vs ≠ [] → v.id ≠ baseOf vs) : WF (baseOf (vs ++ [v])) (vs ++ [v]) := by
  cases vs with
  | nil => exact (wf_append_iff v.parent [] v).2 ⟨wf_nil _, rfl, by simpa using h1⟩
  | cons y ys =>
    have hne : y :: ys ≠ [] := nofun
    exact (wf_append_iff _ _ v).2 ⟨h, hp hne, fun hm => (List.mem_cons.1 hm).elim (h3 hne) h2⟩

theorem find_parent_none_of_not_mem (b p : Uuid) (vs : List Version) (h : IsChain b vs) (hp : p ∉ b :: vids vs) :
    vs.find? (·.parent = p) = none := by
  rw [List.find?_eq_none]
  intro v hv hq
  have hq' : v.parent = p := of_decide_eq_true hq
  exact hp (hq' ▸ parent_mem b vs h v hv)

/-- lookup by parent at any split point of a well-formed chain: the child of the end of `pre` is the head of `suf` -/
theorem find_parent_split (b : Uuid) (pre suf : List Version) (h : WF b (pre ++ suf)) :
    (pre ++ suf).find? (·.parent = lastId b pre) = suf.head? := by
  induction pre generalizing b with
  | nil =>
    cases suf with
    | nil => rfl
    | cons x xs => simp [lastId, h.1.1]
  | cons y ys ih =>
    obtain ⟨hyb, hb, hwf⟩ := (wf_cons b y (ys ++ suf)).1 h
    -- the end of a later prefix is one of `y.id :: vids ys`, and `b` is none of the ids
    have hne : y.parent ≠ lastId y.id ys := by
      rw [hyb]
      intro he
      have := lastId_mem y.id ys
      rw [← he] at this
      exact hb (by simpa [vids_append] using Or.imp_right (List.mem_append_left _) (List.mem_cons.1 this))
    rw [List.cons_append, List.find?_cons, lastId]
    simp only [hne, decide_false]
    exact ih y.id hwf

theorem find_parent_of_mem (b : Uuid) (vs : List Version) (h : WF b vs) (v : Version) (hv : v ∈ vs) :
    vs.find? (·.parent = v.parent) = some v := by
  obtain ⟨pre, suf, rfl⟩ := List.append_of_mem hv
  rw [((isChain_append_gen b pre (v :: suf)).1 h.1).2.1]
  exact find_parent_split b pre (v :: suf) h

theorem find_parent_last (b : Uuid) (vs : List Version) (h : WF b vs) : vs.find? (·.parent = lastId b vs) = none := by
  simpa using find_parent_split b vs [] (by simpa using h)

theorem any_parent_last (b : Uuid) (vs : List Version) (h : WF b vs) : vs.any (·.parent = lastId b vs) = false :=
  List.any_eq_false.2 (List.find?_eq_none.1 (find_parent_last b vs h))

theorem no_shared_parent (b : Uuid) (vs : List Version) (h : WF b vs) (v w : Version) (hv : v ∈ vs) (hw : w ∈ vs)
    (hp : v.parent = w.parent) : v = w := by
  have h1 := find_parent_of_mem b vs h v hv
  have h2 := find_parent_of_mem b vs h w hw
  rw [hp, h2] at h1
  exact (Option.some.inj h1).symm

theorem find_id_of_mem (b : Uuid) (vs : List Version) (h : WF b vs) (v : Version) (hv : v ∈ vs) :
    vs.find? (·.id = v.id) = some v :=
  find?_key_of_mem (key := Version.id) (l := vs) (List.nodup_cons.1 h.2).2 hv

theorem find_id_none (vs : List Version) (i : Uuid) (h : i ∉ vids vs) : vs.find? (·.id = i) = none := by
  rw [List.find?_eq_none]
  intro v hv hq
  have hq' : v.id = i := of_decide_eq_true hq
  exact h (hq' ▸ mem_vids_of_mem hv)

/-- walking from any member's id (or the base) returns exactly the suffix after it -/
theorem walk_from (b : Uuid) (pre suf : List Version) (h : WF b (pre ++ suf)) (n : Nat) (hn : suf.length ≤ n) :
    walk (pre ++ suf) n (lastId b pre) = suf := by
  induction suf generalizing pre n with
  | nil =>
    cases n with
    | zero => rfl
    | succ n => simp only [walk, find_parent_split b pre [] h]; rfl
  | cons x xs ih =>
    cases n with
    | zero => simp at hn
    | succ n =>
      simp only [walk, find_parent_split b pre (x :: xs) h, List.head?_cons]
      have := ih (pre ++ [x]) (by simpa using h) n (by simpa using hn)
      rw [lastId_append] at this
      simpa using this

/-- the replica walk from the base returns the whole chain, in order
    (fuel ≥ length suffices; extra fuel changes nothing) -/
theorem walk_chain (b : Uuid) (vs : List Version) (h : WF b vs) (n : Nat) (hn : vs.length ≤ n) : walk vs n b = vs := by
  simpa [lastId] using walk_from b [] vs (by simpa using h) n hn

theorem ancestors_append (b : Uuid) (vs : List Version) (v : Version) : ancestors b (vs ++ [v]) = v.id :: ancestors b vs := by
  simp [ancestors]

@[simp] theorem ancestors_nil (b : Uuid) : ancestors b [] = [b] := rfl

theorem ancestors_head (b : Uuid) (vs : List Version) : (ancestors b vs).head? = some (lastId b vs) := by
  rcases list_snoc_cases vs with rfl | ⟨xs, x, rfl⟩
  · rfl
  · rw [ancestors_append, lastId_append]; rfl

@[simp] theorem scan_nil (v : Uuid) (last : Option Uuid) (fuel : Nat) : scan v last fuel [] = false := by
  cases fuel <;> rfl

theorem walkBack_nil (vs : List Version) (v : Uuid) (last : Option Uuid) (fuel : Nat) :
    walkBack vs v last fuel Uuid.nil = false := by
  cases fuel with
  | zero => rfl
  | succ k => by_cases hv : Uuid.nil = v <;> simp [walkBack, hv, Ne.symm]

theorem walkBack_eq_scan_gen (b : Uuid) (pre suf : List Version) (h : WF b (pre ++ suf)) (v : Uuid)
    (last : Option Uuid) (fuel : Nat) :
    walkBack (pre ++ suf) v last fuel (lastId b pre) = scan v last fuel (ancestors b pre) := by
  induction fuel generalizing pre suf with
  | zero => rfl
  | succ fuel ih =>
    rcases list_snoc_cases pre with rfl | ⟨xs, x, rfl⟩
    · have hb : b ∉ vids suf := (List.nodup_cons.1 h.2).1
      have hf := find_id_none suf b hb
      show walkBack suf v last (fuel + 1) b = scan v last (fuel + 1) [b]
      simp only [walkBack, scan, scan_nil, hf]
    · have hfind := find_id_of_mem b (xs ++ [x] ++ suf) h x (by simp)
      have hxp : x.parent = lastId b xs :=
        ((isChain_append b xs x).1 (wf_prefix b (xs ++ [x]) suf h).1).2
      have h' : WF b (xs ++ x :: suf) := by simpa using h
      have hrec := ih xs (x :: suf) h'
      rw [lastId_append, ancestors_append]
      simp only [walkBack, scan, hfind, hxp]
      rw [show xs ++ [x] ++ suf = xs ++ x :: suf by simp, hrec]

theorem walkBack_eq_scan (b : Uuid) (vs : List Version) (h : WF b vs) (v : Uuid) (last : Option Uuid) (fuel : Nat) :
    walkBack vs v last fuel (lastId b vs) = scan v last fuel (ancestors b vs) := by
  simpa using walkBack_eq_scan_gen b vs [] (by simpa using h) v last fuel

/-- The scan accepts iff `v` is non-nil and sits at a position `i < fuel` before which no entry is `v`, `last` or nil.
    The bound is `i < fuel` because the test `fuel = 0` comes after the decrement: the entry at index `fuel` is never
    inspected. -/
theorem scan_true_iff (v : Uuid) (last : Option Uuid) (fuel : Nat) (l : List Uuid) :
    scan v last fuel l = true ↔
      v ≠ Uuid.nil ∧ ∃ i, i < fuel ∧ l[i]? = some v ∧
        ∀ j, j < i → ∀ u, l[j]? = some u → (u ≠ v ∧ some u ≠ last ∧ u ≠ Uuid.nil) := by
  induction fuel generalizing l with
  | zero => simp [scan]
  | succ fuel ih =>
    cases l with
    | nil => simp
    | cons x rest =>
      rw [scan]
      constructor
      · intro hs
        split at hs
        · next h =>
          obtain ⟨rfl, hv⟩ : x = v ∧ v ≠ Uuid.nil := by simpa using h
          exact ⟨hv, 0, Nat.succ_pos _, rfl, fun j hj => absurd hj (Nat.not_lt_zero _)⟩
        · next h1 =>
          split at hs
          · cases hs
          · next h2 =>
            split at hs
            · cases hs
            · next h3 =>
              obtain ⟨hv, i, hi, hget, hprev⟩ := (ih rest).1 hs
              refine ⟨hv, i + 1, Nat.succ_lt_succ hi, hget, ?_⟩
              rintro (_ | j) hj u hu
              · cases hu
                exact ⟨fun he => h1 (by simp [he, hv]), h2, fun he => h3 (by simp [he])⟩
              · exact hprev j (Nat.lt_of_succ_lt_succ hj) u hu
      · rintro ⟨hv, i, hi, hget, hprev⟩
        cases i with
        | zero => cases hget; simp [hv]
        | succ i =>
          obtain ⟨h1, h2, h3⟩ := hprev 0 (Nat.succ_pos _) x rfl
          have hf : fuel ≠ 0 := by omega
          rw [if_neg (by simp [h1]), if_neg h2, if_neg (by simp [hf, h3])]
          exact (ih rest).2 ⟨hv, i, Nat.lt_of_succ_lt_succ hi, hget,
            fun j hj u hu => hprev (j + 1) (Nat.succ_lt_succ hj) u hu⟩

theorem scan_mem (v : Uuid) (last : Option Uuid) (fuel : Nat) (l : List Uuid) (h : scan v last fuel l = true) :
    v ∈ l ∧ v ≠ Uuid.nil := by
  obtain ⟨hv, i, -, hget, -⟩ := (scan_true_iff v last fuel l).1 h
  exact ⟨List.mem_of_getElem? hget, hv⟩

end Tcs
