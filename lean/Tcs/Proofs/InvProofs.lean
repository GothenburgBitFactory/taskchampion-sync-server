import Tcs.Proofs.SpecFacts
import Tcs.Proofs.ChainProofs
namespace Tcs

/-! The per-client invariant `CInv`: what it gives (a well-formed chain, the acceptance test of AddVersion read as
    "the parent is the end of the chain", the replica walk), and that every request preserves it, given a fresh drawn id. -/

theorem CInv.wf {x : CSt} (h : CInv x) : WF (baseOf x.versions) x.versions := ⟨h.chain, h.nodup⟩

theorem latest_ne_nil (x : CSt) (hx : CInv x) (c : Client) (hc : x.client = some c) (hne : x.versions ≠ []) :
    c.latest ≠ Uuid.nil := by
  intro h
  have hm := lastId_mem_vids (baseOf x.versions) x.versions hne
  rw [← hx.latest c hc, h] at hm
  exact hx.nonNil hm

/-- the acceptance test of AddVersion, read through the invariant: onto a non-empty chain only its end is accepted -/
theorem accept_parent {x : CSt} (hx : CInv x) {c : Client} (hc : x.client = some c) {p : Uuid}
    (h : (c.latest ≠ Uuid.nil && p ≠ c.latest) = false) (hne : x.versions ≠ []) :
    p = lastId (baseOf x.versions) x.versions := by
  rw [← hx.latest c hc]
  simpa [latest_ne_nil x hx c hc hne] using h

theorem no_child_of_accept (x : CSt) (hx : CInv x) (c : Client) (hc : x.client = some c) (p : Uuid)
    (h : (c.latest ≠ Uuid.nil && p ≠ c.latest) = false) : x.versions.any (·.parent = p) = false := by
  by_cases hne : x.versions = []
  · rw [hne]; rfl
  · rw [accept_parent hx hc h hne]
    exact any_parent_last _ _ hx.wf

theorem cinv_empty : CInv ({} : CSt) := by
  constructor <;> simp [baseOf, vids, IsChain, lastId]

theorem CInv.eq_empty {x : CSt} (h : CInv x) (hc : x.client = none) : x = {} := by
  obtain ⟨h1, h2⟩ := h.noClient hc
  cases x; simp_all

theorem cinv_cCreate (x : CSt) (hx : CInv x) : CInv (cCreate x) := by
  unfold cCreate
  cases hc : x.client with
  | some c => exact hx
  | none =>
    obtain ⟨hv, hd⟩ := hx.noClient hc
    refine ⟨hx.chain, hx.nodup, hx.nonNil, (fun h => nomatch h), ?_, fun _ _ _ => hd, ?_⟩
    · rintro c ⟨⟩; simp only [hv]; rfl
    · rintro c sn ⟨⟩ ⟨⟩

/-- freshness of a drawn id relative to one client's record -/
structure FreshFor (x : CSt) (newId p : Uuid) : Prop where
  nonNil : newId ≠ Uuid.nil
  notParent : newId ≠ p
  notId : newId ∉ vids x.versions
  notBase : x.versions ≠ [] → newId ≠ baseOf x.versions

theorem latest_nil_of_empty (x : CSt) (hx : CInv x) (c : Client) (hc : x.client = some c) (he : x.versions = []) :
    c.latest = Uuid.nil := by
  rw [hx.latest c hc, he]; rfl

theorem cinv_cAddVersion (cfg : Config) (x : CSt) (hx : CInv x) (p : Uuid) (seg : Bytes) (newId : Uuid) (now : Int)
    (hf : FreshFor x newId p) : CInv (cAddVersion cfg x p seg newId now).2 := by
  unfold cAddVersion
  cases hc : x.client with
  | none => exact hx
  | some c =>
    simp only []
    cases h : (c.latest ≠ Uuid.nil && p ≠ c.latest) with
    | true => exact hx
    | false =>
      simp only [Bool.false_eq_true, ↓reduceIte]
      have hwf := wf_snoc_base x.versions ⟨newId, p, seg⟩ hx.wf (accept_parent hx hc h) hf.notParent hf.notId hf.notBase
      refine ⟨hwf.1, hwf.2, ?_, nofun, ?_, ?_, ?_⟩
      · rw [vids_append, List.mem_append, not_or]
        exact ⟨hx.nonNil, by simpa [vids] using hf.nonNil.symm⟩
      · rintro c' ⟨⟩
        exact (lastId_append _ x.versions ⟨newId, p, seg⟩).symm
      · rintro c' ⟨⟩ hs
        exact hx.snapNone c hc (Option.map_eq_none_iff.1 hs)
      · rintro c' sn ⟨⟩ hs
        obtain ⟨sn0, hs0, rfl⟩ := Option.map_eq_some_iff.1 hs
        obtain ⟨h1, h2, h3, h4⟩ := hx.snapSome c sn0 hc hs0
        rw [baseOf_append _ _ h4, vids_append]
        exact ⟨h1, (List.mem_cons.1 h2).elim (fun e => e ▸ List.mem_cons_self) fun m =>
          List.mem_cons_of_mem _ (List.mem_append_left _ m), h3, by simp⟩

theorem cinv_cAddSnapshot (P : Params) (x : CSt) (hx : CInv x) (v : Uuid) (data : Bytes) (now : Int) :
    CInv (cAddSnapshot P x v data now).2 := by
  unfold cAddSnapshot
  cases hc : x.client with
  | none => exact hx
  | some c =>
    simp only []
    split
    · exact hx
    · split
      · next hw =>
        -- the search succeeded, so `v` is a non-nil id on the chain
        rw [hx.latest c hc, walkBack_eq_scan _ _ hx.wf] at hw
        obtain ⟨hm, hnil⟩ := scan_mem _ _ _ _ hw
        have hm' : v ∈ baseOf x.versions :: vids x.versions := List.mem_reverse.1 hm
        refine ⟨hx.chain, hx.nodup, hx.nonNil, nofun, ?_, ?_, ?_⟩
        · rintro c' ⟨⟩
          exact hx.latest c hc
        · rintro c' ⟨⟩ hs
          cases hs
        · rintro c' sn ⟨⟩ ⟨⟩
          refine ⟨⟨data, rfl⟩, hm', hnil, fun he => ?_⟩
          -- with no versions the chain is its base alone, and `baseOf [] = nil` by convention
          rw [he] at hm'
          exact hnil (List.mem_singleton.1 hm')
      · exact hx

/-- `hf` asks freshness against every id the request names (`e.argIds`: the client id too), not only the parent -/
theorem cinv_cstep (S : Sys) (e : Ev) (x : CSt) (hx : CInv x)
    (hf : ∀ n, e.drawn = some n → ∀ p, p ∈ e.argIds → FreshFor x n p) : CInv (cstep S e x).2 := by
  cases e with
  | av c p seg newId now =>
    obtain ⟨h1, h2, h3, h4⟩ := hf newId rfl p (by simp [Ev.argIds])
    rw [← cCreate_versions x] at h3 h4
    exact cinv_cAddVersion S.cfg _ (cinv_cCreate x hx) p seg newId now ⟨h1, h2, h3, h4⟩
  | avLib c p seg newId now => exact cinv_cAddVersion S.cfg x hx p seg newId now (hf newId rfl p (by simp [Ev.argIds]))
  | create c => exact cinv_cCreate x hx
  | «as» c v d now => exact cinv_cAddSnapshot S.params x hx v d now
  | _ => exact hx

/-- the abstract replica walk over a record -/
def walkOuts (x : CSt) : Nat → Uuid → List Out
  | 0, _ => []
  | n+1, p => match cGetChild x p with | .found v => .found v :: walkOuts x n v.id | o => [o]

theorem walkOuts_found (x : CSt) (n : Nat) (p : Uuid) (v : Version) (h : cGetChild x p = .found v) :
    walkOuts x (n + 1) p = .found v :: walkOuts x n v.id := by
  simp only [walkOuts, h]

theorem walkOuts_notFound (x : CSt) (n : Nat) (p : Uuid) (h : cGetChild x p = .notFound) :
    walkOuts x (n + 1) p = [.notFound] := by
  simp only [walkOuts, h]

/-- walking from the end of any prefix of the chain yields the remaining versions and then not-found -/
theorem walkOuts_from (x : CSt) (hx : CInv x) (hc : x.client ≠ none) (pre suf : List Version)
    (hv : x.versions = pre ++ suf) :
    walkOuts x (suf.length + 1) (lastId (baseOf x.versions) pre) = suf.map Out.found ++ [Out.notFound] := by
  obtain ⟨cl, hcl⟩ := Option.ne_none_iff_exists'.1 hc
  have hf := find_parent_split _ pre suf (hv ▸ hx.wf)
  rw [← hv] at hf
  induction suf generalizing pre with
  | nil =>
    -- at the latest version: no child, and the latest pointer names it
    rw [List.append_nil] at hv
    subst hv
    simp only [walkOuts, cGetChild, hcl, hf, List.head?_nil, hx.latest cl hcl, decide_true, Bool.true_or, ↓reduceIte]
    rfl
  | cons y ys ih =>
    rw [List.length_cons, walkOuts]
    simp only [cGetChild, hcl, hf, List.head?_cons]
    have hv' : x.versions = pre ++ [y] ++ ys := by rw [hv]; simp
    have := ih (pre ++ [y]) hv' (hv' ▸ find_parent_split _ (pre ++ [y]) ys (hv' ▸ hx.wf))
    rw [lastId_append] at this
    rw [this]
    rfl

/-- the same walk from the base returns the whole chain -/
theorem walkOuts_from_base (x : CSt) (hx : CInv x) (hc : x.client ≠ none) :
    walkOuts x (x.versions.length + 1) (baseOf x.versions) = x.versions.map Out.found ++ [Out.notFound] :=
  walkOuts_from x hx hc [] x.versions rfl

end Tcs
