import Tcs.Proofs.InvProofs
namespace Tcs

/-! History level, on the abstract storage: freshness of sub-histories; one request keeps the invariant `Inv` and the
    bookkeeping `Seen` of the ids that have occurred (`inv_asStep`); the abstract run `asRunH` of a history, with the
    two inductions the properties use (`asRunH_track` follows one client, `asRunH_filter` drops events). That a
    backend's run of a history is `asRunH` is `hist_good` in `Impl`. -/

theorem freshEv_drawn {e : Ev} {seen : List Uuid} {n : Uuid} (hf : FreshEv e seen) (hn : e.drawn = some n) :
    n ≠ Uuid.nil ∧ n ∉ seen ∧ n ∉ e.argIds := by
  simpa only [FreshEv, hn] using hf

theorem freshEv_not_seen {e : Ev} {seen : List Uuid} {n : Uuid} (hf : FreshEv e seen) (hn : e.drawn = some n) : n ∉ seen :=
  (freshEv_drawn hf hn).2.1

theorem freshEv_mono (e : Ev) (seen seen' : List Uuid) (hsub : ∀ i ∈ seen', i ∈ seen) (hf : FreshEv e seen) :
    FreshEv e seen' := by
  unfold FreshEv at hf ⊢
  cases hd : e.drawn with
  | none => trivial
  | some n =>
    rw [hd] at hf
    exact ⟨hf.1, fun hm => hf.2.1 (hsub n hm), hf.2.2⟩

theorem seenAfter_subset {e : Ev} {seen seen' : List Uuid} (hsub : ∀ i ∈ seen', i ∈ seen) :
    ∀ i ∈ seenAfter e seen', i ∈ seenAfter e seen := by
  intro i hi
  rcases List.mem_append.1 hi with hi | hi
  · exact List.mem_append.2 (.inl hi)
  · exact List.mem_append.2 (.inr (hsub i hi))

theorem fresh_sublist {h h' : List Ev} (hs : h'.Sublist h) {seen seen' : List Uuid} (hsub : ∀ i ∈ seen', i ∈ seen)
    (hf : Fresh h seen) : Fresh h' seen' := by
  induction hs generalizing seen seen' with
  | slnil => trivial
  | cons e _ ih => exact ih (fun i hi => List.mem_append.2 (.inr (hsub i hi))) hf.2
  | cons_cons e _ ih => exact ⟨freshEv_mono e _ _ hsub hf.1, ih (seenAfter_subset hsub) hf.2⟩

theorem fresh_filter (keep : Ev → Bool) (h : List Ev) (seen seen' : List Uuid) (hsub : ∀ i ∈ seen', i ∈ seen)
    (hf : Fresh h seen) : Fresh (h.filter keep) seen' :=
  fresh_sublist List.filter_sublist hsub hf

theorem fresh_append_left (h h' : List Ev) (seen : List Uuid) (hf : Fresh (h ++ h') seen) : Fresh h seen :=
  fresh_sublist (List.sublist_append_left h h') (fun _ hi => hi) hf

/-- `seen` covers the ids that occurred so far: every stored version id, and the base of every non-empty chain. The base
    is there because it entered as a request argument, not as a drawn id, and a later drawn id must differ from it too
    (`FreshFor.notBase`). -/
structure Seen (a : AS) (seen : List Uuid) : Prop where
  ids : ∀ i ∈ a.ids, i ∈ seen
  base : ∀ c, (a.st c).versions ≠ [] → baseOf (a.st c).versions ∈ seen

theorem inv_init : Inv ({} : AS) := ⟨fun _ => cinv_empty, fun _ v hv => by simp at hv⟩
theorem seen_init (seen : List Uuid) : Seen ({} : AS) seen := ⟨fun i hi => by simp at hi, fun c h => by simp at h⟩

theorem inv_asStep (S : Sys) (e : Ev) (a : AS) (seen : List Uuid) (hinv : Inv a) (hseen : Seen a seen) (hf : FreshEv e seen) :
    Inv (asStep S e a).2 ∧ Seen (asStep S e a).2 (seenAfter e seen) := by
  have hsub : ∀ i ∈ seen, i ∈ seenAfter e seen := fun i hi => List.mem_append_right _ hi
  cases hc : e.client with
  | none =>
    rw [asStep_none S e a hc]
    exact ⟨hinv, fun i hi => hsub i (hseen.ids i hi), fun c h => hsub _ (hseen.base c h)⟩
  | some c =>
    have hfresh : ∀ n, e.drawn = some n → ∀ p, p ∈ e.argIds → FreshFor (a.st c) n p := by
      intro n hn p hp
      obtain ⟨h1, h2, h3⟩ := freshEv_drawn hf hn
      refine ⟨h1, fun h => h3 (h ▸ hp), fun hm => ?_, fun hne h => h2 (h ▸ hseen.base c hne)⟩
      obtain ⟨v, hv, rfl⟩ := List.mem_map.1 hm
      exact h2 (hseen.ids _ (hinv.ids c v hv))
    have hvers := cstep_versions S e (a.st c)
    have hids := asStep_ids S e a c hc
    rw [← appended_ids] at hids
    -- the record of `c` is the specification step's, every other record is untouched
    have hst : ∀ d, d ≠ c → (asStep S e a).2.st d = a.st d := fun d hd => asStep_other S e a c d hc hd
    have hstc := asStep_same S e a c hc
    -- `Inv.each`, `Inv.ids`, `Seen.ids`, `Seen.base`
    refine ⟨⟨fun d => ?_, fun d v hv => ?_⟩, fun i hi => ?_, fun d hne => ?_⟩
    · by_cases hd : d = c
      · rw [hd, hstc]; exact cinv_cstep S e (a.st c) (hinv.each c) hfresh
      · rw [hst d hd]; exact hinv.each d
    · rw [hids]
      by_cases hd : d = c
      · rw [hd, hstc, hvers] at hv
        exact (List.mem_append.1 hv).elim (fun h => List.mem_append_left _ (hinv.ids c v h))
          fun h => List.mem_append_right _ (List.mem_map_of_mem h)
      · rw [hst d hd] at hv
        exact List.mem_append_left _ (hinv.ids d v hv)
    · rw [hids] at hi
      rcases List.mem_append.1 hi with hi | hi
      · exact hsub i (hseen.ids i hi)
      · obtain ⟨v, hv, rfl⟩ := List.mem_map.1 hi
        obtain ⟨-, u, ho⟩ := mem_appended hv
        simp [seenAfter, avOk_id S e (a.st c) _ u ho]
    · by_cases hd : d = c
      · rw [hd, hstc, hvers] at hne ⊢
        by_cases he : (a.st c).versions = []
        · -- the chain starts here: its base is the parent the request names
          rw [he] at hne ⊢
          cases hap : appended e (cstep S e (a.st c)).1 with
          | nil => exact absurd hap hne
          | cons v vs =>
            have := (mem_appended (hap ▸ List.mem_cons_self : v ∈ _)).1
            simp [seenAfter, baseOf, this]
        · rw [baseOf_append _ _ he]
          exact hsub _ (hseen.base c he)
      · rw [hst d hd] at hne ⊢
        exact hsub _ (hseen.base d hne)

def asRunH (S : Sys) : List Ev → AS → List Out × AS
  | [], a => ([], a)
  | e :: es, a => ((asStep S e a).1 :: (asRunH S es (asStep S e a).2).1, (asRunH S es (asStep S e a).2).2)

theorem asRunH_append (S : Sys) (h h' : List Ev) (a : AS) :
    asRunH S (h ++ h') a =
      ((asRunH S h a).1 ++ (asRunH S h' (asRunH S h a).2).1, (asRunH S h' (asRunH S h a).2).2) := by
  induction h generalizing a with
  | nil => simp [asRunH]
  | cons e es ih => simp only [List.cons_append, asRunH, ih]

/-- Tracking one client along a history: a view `obs` of its record that every own request updates by `step` (from the
    request and its answer alone), and that `step` leaves alone on other clients' requests, is after the history the
    fold of `step` over the (request, answer) pairs. -/
theorem asRunH_track (S : Sys) (c : Uuid) {β : Type} (obs : CSt → β) (step : Ev → Out → β → β)
    (fold : List Ev → List Out → β → β) (fold_nil : ∀ b, fold [] [] b = b)
    (fold_cons : ∀ e es o os b, fold (e :: es) (o :: os) b = fold es os (step e o b))
    (own : ∀ e x, e.client = some c → obs (cstep S e x).2 = step e (cstep S e x).1 (obs x))
    (other : ∀ e o b, e.client ≠ some c → step e o b = b) (h : List Ev) (a : AS) :
    obs ((asRunH S h a).2.st c) = fold h (asRunH S h a).1 (obs (a.st c)) := by
  induction h generalizing a with
  | nil => exact (fold_nil _).symm
  | cons e es ih =>
    rw [asRunH, fold_cons, ih, asStep_st]
    by_cases hc : e.client = some c
    · rw [if_pos hc, own e _ hc, asStep_out S e a c hc]
    · rw [if_neg hc, other e _ _ hc]

/-- ids that have appeared once the events `l` have happened -/
def seenFold (seen0 : List Uuid) : List Ev → List Uuid
  | [] => seen0
  | e :: es => seenFold (seenAfter e seen0) es

theorem seenFold_snoc (seen0 : List Uuid) (l : List Ev) (e : Ev) :
    seenFold seen0 (l ++ [e]) = seenAfter e (seenFold seen0 l) := by
  induction l generalizing seen0 with
  | nil => rfl
  | cons x xs ih => exact ih _

theorem fresh_append_iff (l1 l2 : List Ev) (seen0 : List Uuid) :
    Fresh (l1 ++ l2) seen0 ↔ Fresh l1 seen0 ∧ Fresh l2 (seenFold seen0 l1) := by
  induction l1 generalizing seen0 with
  | nil => simp [Fresh, seenFold]
  | cons x xs ih => simp only [List.cons_append, Fresh, seenFold, ih, and_assoc]

theorem fresh_snoc (l : List Ev) (e : Ev) (seen0 : List Uuid) :
    Fresh (l ++ [e]) seen0 ↔ Fresh l seen0 ∧ FreshEv e (seenFold seen0 l) := by
  rw [fresh_append_iff, Fresh, Fresh, and_true]

theorem mem_seenAfter (e : Ev) (seen : List Uuid) (x : Uuid) :
    x ∈ seenAfter e seen ↔ (x ∈ e.argIds ∨ e.drawn = some x) ∨ x ∈ seen := by
  simp only [seenAfter, List.mem_append]
  cases hd : e.drawn with
  | none => simp
  | some n => simp [eq_comm]

theorem mem_seenFold (seen0 : List Uuid) (l : List Ev) (x : Uuid) :
    x ∈ seenFold seen0 l ↔ x ∈ seen0 ∨ ∃ e ∈ l, x ∈ e.argIds ∨ e.drawn = some x := by
  induction l generalizing seen0 with
  | nil => simp [seenFold]
  | cons e es ih => simp only [seenFold, ih, mem_seenAfter, List.mem_cons, exists_eq_or_imp, or_assoc, or_left_comm]

theorem fresh_append (l1 l2 : List Ev) (seen : List Uuid) (h : Fresh (l1 ++ l2) seen) :
    Fresh l1 seen ∧ ∃ seen', Fresh l2 seen' ∧ ∀ x ∈ seen, x ∈ seen' :=
  have h' := (fresh_append_iff l1 l2 seen).1 h
  ⟨h'.1, _, h'.2, fun x hx => (mem_seenFold seen l1 x).2 (.inl hx)⟩

theorem asRunH_out (S : Sys) (h : List Ev) (a : AS) (i : Nat) (o : Out) (ho : (asRunH S h a).1[i]? = some o) :
    ∃ e a', h[i]? = some e ∧ (asStep S e a').1 = o := by
  induction h generalizing a i with
  | nil => cases ho
  | cons x xs ih =>
    cases i with
    | zero => exact ⟨x, a, rfl, Option.some.inj ho⟩
    | succ j => exact ih _ j ho

theorem asRunH_no_storageError (S : Sys) (h : List Ev) (a : AS) : ∀ o ∈ (asRunH S h a).1, o ≠ Out.storageError := by
  intro o ho
  obtain ⟨i, hi⟩ := List.mem_iff_getElem?.mp ho
  obtain ⟨e, a', _, rfl⟩ := asRunH_out S h a i o hi
  exact asStep_ne_storageError S e a'

/-- the outputs at the positions of the events selected by `keep` -/
def selectOuts (keep : Ev → Bool) : List Ev → List Out → List Out
  | e :: es, o :: os => (if keep e then [o] else []) ++ selectOuts keep es os
  | _, _ => []

theorem selectOuts_cons (keep : Ev → Bool) (e : Ev) (es : List Ev) (o : Out) (os : List Out) :
    selectOuts keep (e :: es) (o :: os) = (if keep e then [o] else []) ++ selectOuts keep es os := rfl

/-- Dropping events from a history: if a relation `R` between the two abstract states is kept by every kept event
    (which then also answers the same on both sides) and by every dropped event on the left alone, then the kept
    answers agree and `R` holds at the end. -/
theorem asRunH_filter (S : Sys) (keep : Ev → Bool) (R : AS → AS → Prop)
    (hkeep : ∀ e a a', keep e = true → R a a' → (asStep S e a).1 = (asStep S e a').1 ∧ R (asStep S e a).2 (asStep S e a').2)
    (hdrop : ∀ e a a', keep e = false → R a a' → R (asStep S e a).2 a') (h : List Ev) (a a' : AS) (hR : R a a') :
    selectOuts keep h (asRunH S h a).1 = (asRunH S (h.filter keep) a').1 ∧
      R (asRunH S h a).2 (asRunH S (h.filter keep) a').2 := by
  induction h generalizing a a' with
  | nil => exact ⟨rfl, hR⟩
  | cons e es ih =>
    cases hk : keep e with
    | true =>
      obtain ⟨h1, h2⟩ := hkeep e a a' hk hR
      obtain ⟨i1, i2⟩ := ih _ _ h2
      rw [List.filter_cons_of_pos hk]
      simp only [asRunH, selectOuts_cons, hk, if_true, List.singleton_append, h1, i1]
      exact ⟨trivial, i2⟩
    | false =>
      obtain ⟨i1, i2⟩ := ih _ _ (hdrop e a a' hk hR)
      rw [List.filter_cons_of_neg (by simp [hk])]
      simp only [asRunH, selectOuts_cons, hk, Bool.false_eq_true, if_false, List.nil_append]
      exact ⟨i1, i2⟩

end Tcs
