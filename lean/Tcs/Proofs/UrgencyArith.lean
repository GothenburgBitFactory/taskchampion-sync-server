import Tcs.Model.Server

/-! Arithmetic of the snapshot-urgency thresholds (`server.rs: SnapshotUrgency`): the lemmas the C12 theorems rest on.

* `threeHalves t` is ⌊3t/2⌋ for `t ≥ 0` and never below `t`;
* which level `lvl` answers, by the two comparisons it makes (`lvl_*_iff`), and that it is monotone; the same for
  `urgency`, the maximum over the two measures (`urgency_*_iff`);
* the fixed-width arithmetic as it stood before the repair (`lvlU32Pinned`, `lvlU32PinnedWrap`, `lvlI64Pinned`; defect
  D2): exactly when it overflows (`pinned_*_overflow_iff`), what the wrapping variant then answers (three witnesses),
  and that the i64 form is `lvl` where it does not overflow. -/

namespace Tcs

/-- the specification over the integers: one and a half times = ⌊3t/2⌋ for t ≥ 0 -/
def specLvl (x t : Int) : Urgency :=
  if 2 * x ≥ 3 * t - (3 * t) % 2 then .high else if x ≥ t then .low else .none

theorem threeHalves_nonneg (t : Int) (ht : 0 ≤ t) : threeHalves t = t * 3 / 2 :=
  Int.tdiv_eq_ediv_of_nonneg (by omega)

/-- `threeHalves` on a negative argument, in `omega`-friendly (Euclidean) form. -/
theorem threeHalves_neg (t : Int) (ht : t ≤ 0) : threeHalves t = -((-(t * 3)) / 2) := by
  unfold threeHalves
  have h : t * 3 = -(-(t * 3)) := by omega
  rw [h, Int.neg_tdiv, Int.tdiv_eq_ediv_of_nonneg (by omega)]
  omega

/-- high threshold never below the low one -/
theorem thresholds_ordered (t : Int) (ht : 0 ≤ t) : t ≤ threeHalves t := by
  rw [threeHalves_nonneg t ht]; omega

theorem lvl_high_iff (x t : Int) : lvl x t = .high ↔ x ≥ threeHalves t := by
  by_cases h1 : x ≥ threeHalves t <;> by_cases h2 : x ≥ t <;> simp [lvl, h1, h2]

theorem lvl_low_iff (x t : Int) (ht : 0 ≤ t) :
    lvl x t = .low ↔ (t ≤ x ∧ x < threeHalves t) := by
  have := thresholds_ordered t ht
  by_cases h1 : x ≥ threeHalves t <;> by_cases h2 : x ≥ t <;> simp [lvl, h1, h2] <;> omega

theorem lvl_none_iff (x t : Int) (ht : 0 ≤ t) : lvl x t = .none ↔ x < t := by
  have := thresholds_ordered t ht
  by_cases h1 : x ≥ threeHalves t <;> by_cases h2 : x ≥ t <;> simp [lvl, h1, h2] <;> omega

theorem lvl_monotone (x y t : Int) (ht : 0 ≤ t) (h : x ≤ y) :
    (lvl x t).toNat ≤ (lvl y t).toNat := by
  cases hx : lvl x t with
  | none => exact Nat.zero_le _
  | low =>
    have := (lvl_low_iff x t ht).1 hx
    cases hy : lvl y t with
    | none => have := (lvl_none_iff y t ht).1 hy; omega
    | _ => decide
  | high =>
    have := (lvl_high_iff x t).1 hx
    rw [(lvl_high_iff y t).2 (by omega)]; decide

theorem max_toNat (a b : Urgency) : (Urgency.max a b).toNat = max a.toNat b.toNat := by
  cases a <;> cases b <;> rfl

theorem max_eq_high_iff (a b : Urgency) : Urgency.max a b = .high ↔ (a = .high ∨ b = .high) := by
  cases a <;> cases b <;> decide

theorem max_eq_none_iff (a b : Urgency) : Urgency.max a b = .none ↔ (a = .none ∧ b = .none) := by
  cases a <;> cases b <;> decide

theorem days_monotone (now now' ts : Int) (h : now ≤ now') : days now ts ≤ days now' ts :=
  Int.tdiv_le_tdiv (by decide) (by omega)

theorem urgency_none_snapshot (cfg : Config) (now : Int) : urgency cfg now none = .high := rfl

/-- high when either measure reached one and a half times its target; low when either reached
    its target; none otherwise -/
theorem urgency_high_iff (cfg : Config) (now : Int) (s : Snapshot) :
    urgency cfg now (some s) = .high ↔
      (days now s.ts ≥ threeHalves cfg.days ∨ (s.since : Int) ≥ threeHalves cfg.versions) := by
  simp only [urgency, max_eq_high_iff, lvl_high_iff]

theorem urgency_none_iff (cfg : Config) (hd : 0 ≤ cfg.days) (now : Int) (s : Snapshot) :
    urgency cfg now (some s) = .none ↔
      (days now s.ts < cfg.days ∧ (s.since : Int) < cfg.versions) := by
  simp only [urgency, max_eq_none_iff, lvl_none_iff _ _ hd, lvl_none_iff _ _ (Int.natCast_nonneg _)]

/-- the remaining case: low iff not high and at least one measure reached its target -/
theorem urgency_low_iff (cfg : Config) (hd : 0 ≤ cfg.days) (now : Int) (s : Snapshot) :
    urgency cfg now (some s) = .low ↔
      ((days now s.ts < threeHalves cfg.days ∧ (s.since : Int) < threeHalves cfg.versions) ∧
       (cfg.days ≤ days now s.ts ∨ (cfg.versions : Int) ≤ s.since)) := by
  have hh := urgency_high_iff cfg now s
  have hn := urgency_none_iff cfg hd now s
  cases hu : urgency cfg now (some s) <;> simp only [hu, reduceCtorEq, false_iff, true_iff] at hh hn ⊢ <;> omega

/-- At the smallest overflowing threshold, `⌈2^32/3⌉`, the wrapping arithmetic is still right at `x = 0`:
    `1431655766 * 3 = 2^32 + 2`, so the wrapped threshold is `2 / 2 = 1`, not `0`. -/
theorem pinned_u32_wrap_at_zero_agrees :
    lvlU32PinnedWrap 0 1431655766 = .none ∧ lvl 0 1431655766 = .none := by
  decide

/-- With the same threshold a single version since the snapshot is reported `high` where the repaired comparison says
    `none`. -/
theorem pinned_u32_wrap_wrong :
    lvlU32PinnedWrap 1 1431655766 = .high ∧ lvl 1 1431655766 = .none := by
  decide

/-- A threshold for which the wrapped high-threshold really falls to 0
    (`2863311531 * 3 = 2^33 + 1`, and `2863311531 < 2^32` is a legal u32): `high` at `x = 0`. -/
theorem pinned_u32_wrap_wrong_zero :
    (2863311531 : Nat) < 2 ^ 32 ∧
    lvlU32PinnedWrap 0 2863311531 = .high ∧ lvl 0 2863311531 = .none := by
  decide

theorem pinned_u32_overflow_iff (x t : Nat) : lvlU32Pinned x t = none ↔ 2 ^ 32 ≤ t * 3 := by
  unfold lvlU32Pinned; split <;> simp <;> omega

theorem pinned_i64_agrees (x t : Int) (h : t * 3 < 2 ^ 63) : lvlI64Pinned x t = some (lvl x t) := by
  unfold lvlI64Pinned
  rw [if_pos h]

theorem pinned_i64_overflow_iff (x t : Int) : lvlI64Pinned x t = none ↔ 2 ^ 63 ≤ t * 3 := by
  unfold lvlI64Pinned; split <;> simp <;> omega

end Tcs
