import Tcs.Proofs.HistProofs
import Tcs.Proofs.ASReq
import Tcs.Proofs.SimGen
import Tcs.Proofs.SqlSim
import Tcs.Proofs.MemSim
namespace Tcs

/-! A storage backend together with what ties it to the abstract storage. Property theorems are
    stated for an arbitrary `Impl` and instantiated for the two backends shipped with the server. -/

structure Impl (σ : Type) where
  B : Backend σ
  mode : TxnMode
  abs : σ → AS
  Rep : σ → Prop
  sim : Sim B abs Rep
  init : σ
  rep_init : Rep init
  abs_init : abs init = {}

def sqlImpl : Impl Sql := ⟨SqlB, .snapshotCommit, Sql.abs, Sql.Rep, sqlSim, {}, sqlRep_init, sqlAbs_init⟩

def memImpl : Impl Mem := ⟨MemB, .inPlace, Mem.abs, Mem.Rep, memSim, {}, memRep_init, memAbs_init⟩

/-- a concrete state that represents an abstract state satisfying the invariant, whose ids some `seen` covers -/
structure Good {σ} (I : Impl σ) (s : σ) : Prop where
  rep : I.Rep s
  inv : Inv (I.abs s)
  seen : ∃ seen, Seen (I.abs s) seen

theorem Impl.inv_init {σ} (I : Impl σ) : Inv (I.abs I.init) := I.abs_init ▸ Tcs.inv_init
theorem Impl.seen_init {σ} (I : Impl σ) (seen : List Uuid) : Seen (I.abs I.init) seen := I.abs_init ▸ Tcs.seen_init seen

theorem good_init {σ} (I : Impl σ) : Good I I.init := ⟨I.rep_init, I.inv_init, ⟨[], I.seen_init []⟩⟩

/-- one request on a good concrete state: same answer as the specification step, abstraction commutes, no storage error -/
theorem req_good {σ} (I : Impl σ) (S : Sys) (hS : S.ensure = ensureClientFixed) (e : Ev) (s : σ) (hg : Good I s)
    (hf : ∀ n, e.drawn = some n → n ∉ (I.abs s).ids) :
    ∃ s', (e.req S).runC I.B I.mode s = ((asStep S e (I.abs s)).1, s', true) ∧ I.abs s' = (asStep S e (I.abs s)).2 ∧ I.Rep s' :=
  sim_runC I.sim I.mode (e.req S) s hg.rep _ _ (as_req S hS I.mode e (I.abs s) hg.inv hf)

/-- `req_good` seen from the request's client: answer and new record are the specification step's on that client's
    record, the other records stay, the id set grows by what the request added -/
theorem req_good_client {σ} (I : Impl σ) (S : Sys) (hS : S.ensure = ensureClientFixed) (e : Ev) (c : Uuid)
    (hc : e.client = some c) (s : σ) (hg : Good I s) (hf : ∀ n, e.drawn = some n → n ∉ (I.abs s).ids) :
    ∃ s', (e.req S).runC I.B I.mode s = ((cstep S e ((I.abs s).st c)).1, s', true) ∧
      (I.abs s').st c = (cstep S e ((I.abs s).st c)).2 ∧ (∀ d, d ≠ c → (I.abs s').st d = (I.abs s).st d) ∧
      (I.abs s').ids = (I.abs s).ids ++ addedId e (cstep S e ((I.abs s).st c)).1 := by
  obtain ⟨s', h1, h2, _⟩ := req_good I S hS e s hg hf
  refine ⟨s', by rwa [asStep_out S e _ c hc] at h1, ?_, fun d hd => ?_, ?_⟩ <;> rw [h2]
  · exact asStep_same S e _ c hc
  · exact asStep_other S e _ c d hc hd
  · exact asStep_ids S e _ c hc

/-- reads (and any request that draws no id) need no freshness -/
theorem req_good_nodraw {σ} (I : Impl σ) (S : Sys) (hS : S.ensure = ensureClientFixed) (e : Ev) (s : σ) (hg : Good I s)
    (hd : e.drawn = none) :
    ∃ s', (e.req S).runC I.B I.mode s = ((asStep S e (I.abs s)).1, s', true) ∧ I.abs s' = (asStep S e (I.abs s)).2 ∧ I.Rep s' :=
  req_good I S hS e s hg (by intro n hn; rw [hd] at hn; cases hn)

theorem hist_good {σ} (I : Impl σ) (S : Sys) (hS : S.ensure = ensureClientFixed) (h : List Ev) (s : σ) (seen : List Uuid)
    (hrep : I.Rep s) (hinv : Inv (I.abs s)) (hseen : Seen (I.abs s) seen) (hf : Fresh h seen) :
    ∃ s', runHC I.B I.mode S h s = ((asRunH S h (I.abs s)).1, s', true) ∧ I.abs s' = (asRunH S h (I.abs s)).2 ∧ Good I s' := by
  induction h generalizing s seen with
  | nil => exact ⟨s, rfl, rfl, hrep, hinv, seen, hseen⟩
  | cons e es ih =>
    obtain ⟨s1, h1, h2, h3⟩ := req_good I S hS e s ⟨hrep, hinv, seen, hseen⟩
      fun n hn hm => freshEv_not_seen hf.1 hn (hseen.ids n hm)
    obtain ⟨hi, hs⟩ := inv_asStep S e (I.abs s) seen hinv hseen hf.1
    rw [← h2] at hi hs
    obtain ⟨s', q1, q2, q3⟩ := ih s1 (seenAfter e seen) h3 hi hs hf.2
    exact ⟨s', by simp only [runHC, h1, q1, asRunH, h2, Bool.and_self], by rw [q2, h2]; rfl, q3⟩

theorem hist_init {σ} (I : Impl σ) (S : Sys) (hS : S.ensure = ensureClientFixed) (h : List Ev) (hf : Fresh h []) :
    ∃ s', runHC I.B I.mode S h I.init = ((asRunH S h {}).1, s', true) ∧ I.abs s' = (asRunH S h {}).2 ∧ Good I s' := by
  have := hist_good I S hS h I.init [] I.rep_init I.inv_init (I.seen_init []) hf
  rwa [I.abs_init] at this

theorem runH_init {σ} (I : Impl σ) (S : Sys) (hS : S.ensure = ensureClientFixed) (h : List Ev) (hf : Fresh h []) :
    (runH I.B I.mode S h I.init).1 = (asRunH S h {}).1 ∧ I.abs (runH I.B I.mode S h I.init).2 = (asRunH S h {}).2 := by
  obtain ⟨s', h1, h2, _⟩ := hist_init I S hS h hf
  unfold runH
  rw [h1]
  exact ⟨rfl, h2⟩

theorem runH_good {σ} (I : Impl σ) (S : Sys) (hS : S.ensure = ensureClientFixed) (h : List Ev) (hf : Fresh h []) :
    Good I (runH I.B I.mode S h I.init).2 := by
  obtain ⟨s', h1, _, h3⟩ := hist_init I S hS h hf
  unfold runH
  rw [h1]
  exact h3

theorem out_good {σ} (I : Impl σ) (S : Sys) (hS : S.ensure = ensureClientFixed) (e : Ev) (s : σ) (hg : Good I s)
    (hd : e.drawn = none) : ((e.req S).run I.B I.mode s).1 = (asStep S e (I.abs s)).1 := by
  obtain ⟨s', h1, _, _⟩ := req_good_nodraw I S hS e s hg hd
  exact congrArg Prod.fst h1

theorem gcv_good {σ} (I : Impl σ) (S : Sys) (hS : S.ensure = ensureClientFixed) (s : σ) (hg : Good I s) (c p : Uuid) :
    (((Ev.gcv c p).req S).run I.B I.mode s).1 = cGetChild ((I.abs s).st c) p :=
  out_good I S hS (.gcv c p) s hg rfl

end Tcs
