import Tcs.Model.Sem.Conc
import Tcs.Proofs.ListLemmas
namespace Tcs
variable {σ ρ : Type}

/-! Reduction theorem (C03): every interleaved execution is matched by an execution of the
    reduced semantics in which each transaction is one atomic step, taken when the real one ends. -/

/-- `stepAtomic` seen from the thread that moves: the database and the thread after its step -/
def thStep (B : Backend σ) (mode : TxnMode) (db : σ) : Th σ ρ → Option (σ × Th σ ρ)
  | .idle p => some (db, .outside p)
  | .outside (.done r) => some (db, .finished r)
  | .outside (.txn cl body k) => some ((body.run B mode cl db).2, .outside (k (body.run B mode cl db).1))
  | _ => none

theorem stepAtomic_eq (B : Backend σ) (mode : TxnMode) (A : Atomic σ ρ) (t : Nat) :
    stepAtomic B mode A t =
      (A.threads[t]?).bind fun th => (thStep B mode A.db th).map fun r => ⟨r.1, A.threads.set t r.2⟩ := by
  unfold stepAtomic
  cases A.threads[t]? with
  | none => rfl
  | some th =>
    cases th with
    | outside p => cases p <;> rfl
    | _ => rfl

theorem stepAtomic_of {B : Backend σ} {mode : TxnMode} {a : Atomic σ ρ} {t : Nat} {th : Th σ ρ} {r : σ × Th σ ρ}
    (hth : a.threads[t]? = some th) (hr : thStep B mode a.db th = some r) :
    stepAtomic B mode a t = some ⟨r.1, a.threads.set t r.2⟩ := by
  rw [stepAtomic_eq, hth, Option.bind_some, hr, Option.map_some]

/-- a request that is one transaction (`one`): its atomic step is the whole request, run on the database as it is -/
theorem thStep_one {α : Type} (B : Backend σ) (mode : TxnMode) (db : σ) (c : Uuid) (body : TxnM (Except SrvErr α))
    (f : α → Out) :
    thStep B mode db (.outside (one c body f)) =
      some (((one c body f).runC B mode db).2.1, .outside (.done ((one c body f).runC B mode db).1)) := by
  simp only [thStep, one, ReqM.runC]
  rcases (body.run B mode c db).1 with _ | ⟨⟨⟨⟩⟩ | _⟩ <;> rfl

theorem runSmall_cons (B : Backend σ) (mode : TxnMode) (s : Conc σ ρ) (t : Nat) (ts : List Nat) :
    runSmall B mode s (t :: ts) = runSmall B mode (runSmall B mode s [t]) ts := by
  simp only [runSmall]
  cases stepSmall B mode s t <;> rfl

theorem runAtomic_append (B : Backend σ) (mode : TxnMode) (a : Atomic σ ρ) (s1 s2 : List Nat) :
    runAtomic B mode a (s1 ++ s2) = runAtomic B mode (runAtomic B mode a s1) s2 := by
  induction s1 generalizing a with
  | nil => rfl
  | cons t ts ih =>
    simp only [List.cons_append, runAtomic]
    cases stepAtomic B mode a t with
    | none => exact ih a
    | some a' => exact ih a'

/-- threads only move forward: not yet invoked / in progress / response sent -/
def Th.stage : Th σ ρ → Nat
  | .idle _ => 0
  | .finished _ => 2
  | _ => 1

theorem thStep_stage (B : Backend σ) (mode : TxnMode) (db db' : σ) (th th' : Th σ ρ)
    (h : thStep B mode db th = some (db', th')) : th.stage ≤ th'.stage := by
  cases th with
  | outside p => cases p <;> cases h <;> simp [Th.stage]
  | idle => simp [Th.stage]
  | _ => cases h

theorem runAtomic_stage (B : Backend σ) (mode : TxnMode) (a : Atomic σ ρ) (sch : List Nat) (u : Nat) (x : Th σ ρ)
    (hx : a.threads[u]? = some x) : ∃ y, (runAtomic B mode a sch).threads[u]? = some y ∧ x.stage ≤ y.stage := by
  induction sch generalizing a x with
  | nil => exact ⟨x, hx, Nat.le_refl _⟩
  | cons t ts ih =>
    rw [runAtomic]
    cases hst : stepAtomic B mode a t with
    | none => exact ih a x hx
    | some a' =>
      rw [stepAtomic_eq, Option.bind_eq_some_iff] at hst
      obtain ⟨th, hth, hst⟩ := hst
      obtain ⟨r, hr, rfl⟩ := Option.map_eq_some_iff.mp hst
      have hx' : (a.threads.set t r.2)[u]? = if u = t then some r.2 else a.threads[u]? := set_get hth
      split at hx'
      · next hut =>
        subst hut
        cases hth.symm.trans hx
        obtain ⟨y, hy, hle⟩ := ih ⟨r.1, a.threads.set u r.2⟩ r.2 hx'
        exact ⟨y, hy, Nat.le_trans (thStep_stage B mode _ _ _ _ hr) hle⟩
      · exact ih ⟨r.1, a.threads.set t r.2⟩ x (hx'.trans hx)

theorem ThRel.change_db {B : Backend σ} {db db' : σ} {x y : Th σ ρ}
    (h : ThRel B db x y) (hx : x.isInTxn = false) : ThRel B db' x y := by
  cases h with
  | idle p => exact .idle p
  | outside p => exact .outside p
  | finished r => exact .finished r
  | inTxn => simp [Th.isInTxn] at hx

theorem ThRel.resp {B : Backend σ} {db : σ} {x y : Th σ ρ} (h : ThRel B db x y) : x.resp = y.resp := by
  cases h <;> rfl

theorem red_thread (B : Backend σ) (s : Conc σ ρ) (a : Atomic σ ρ) (h : Red B s a) (t : Nat) (x : Th σ ρ)
    (hx : s.threads[t]? = some x) : ∃ y, a.threads[t]? = some y ∧ ThRel B s.db x y := by
  obtain ⟨ht, hget⟩ := List.getElem?_eq_some_iff.mp hx
  have hta : t < a.threads.length := h.len ▸ ht
  exact ⟨a.threads[t], List.getElem?_eq_getElem hta, hget ▸ h.rel t ht hta⟩

theorem Red.lock_iff {B : Backend σ} {s : Conc σ ρ} {a : Atomic σ ρ} (h : Red B s a) {i : Nat} {x : Th σ ρ}
    (hx : s.threads[i]? = some x) : x.isInTxn = true ↔ s.lock = some i := by
  obtain ⟨hi, rfl⟩ := List.getElem?_eq_some_iff.mp hx
  exact ⟨h.lockOnly i hi, fun hl => (h.lockHolder i hl).2⟩

/-- Thread `t` moves: it becomes `x` in the interleaved state and `y` in the reduced one, the database becomes `db'`
    and the lock `lock'`. The other threads stay related because the database stays, or because `t` held the lock
    and so none of them is inside a transaction. -/
theorem Red.set {B : Backend σ} {s : Conc σ ρ} {a : Atomic σ ρ} (h : Red B s a) {t : Nat} {th : Th σ ρ}
    (hth : s.threads[t]? = some th) {db' : σ} {lock' : Option Nat} {x y : Th σ ρ} (hxy : ThRel B db' x y)
    (hx : x.isInTxn = true ↔ lock' = some t) (hlock : ∀ i, i ≠ t → (lock' = some i ↔ s.lock = some i))
    (hdb : db' = s.db ∨ s.lock = some t) :
    Red B ⟨db', lock', s.threads.set t x⟩ ⟨db', a.threads.set t y⟩ := by
  have hin : ∀ i (hi : i < (s.threads.set t x).length),
      ((s.threads.set t x)[i]).isInTxn = true ↔ lock' = some i := by
    intro i hi
    rw [List.getElem_set]
    split
    · next heq => subst heq; exact hx
    · next hne =>
      rw [List.length_set] at hi
      exact (h.lock_iff (List.getElem?_eq_getElem hi)).trans (hlock i (Ne.symm hne)).symm
  refine ⟨rfl, by simp [h.len], ?_, ?_, fun i hi => (hin i hi).1⟩
  · intro i h1 h2
    have h1' : i < s.threads.length := by simpa using h1
    have h2' : i < a.threads.length := by simpa using h2
    rw [List.getElem_set, List.getElem_set]
    split
    · exact hxy
    · next hne =>
      rcases hdb with rfl | hl
      · exact h.rel i h1' h2'
      · refine (h.rel i h1' h2').change_db (Bool.eq_false_iff.2 fun hb => hne ?_)
        exact Option.some.inj (hl ▸ (h.lock_iff (List.getElem?_eq_getElem h1')).1 hb)
  · intro u hu
    have hlt : u < (s.threads.set t x).length := by
      rw [List.length_set]
      by_cases hut : u = t
      · exact hut ▸ (List.getElem?_eq_some_iff.mp hth).1
      · exact (h.lockHolder u ((hlock u hut).1 hu)).1
    exact ⟨hlt, (hin u hlt).2 hu⟩

theorem Red.set_left {B : Backend σ} {s : Conc σ ρ} {a : Atomic σ ρ} (h : Red B s a) {t : Nat} {th : Th σ ρ}
    (hth : s.threads[t]? = some th) {lock' : Option Nat} {x y : Th σ ρ} (hy : a.threads[t]? = some y)
    (hxy : ThRel B s.db x y) (hx : x.isInTxn = true ↔ lock' = some t)
    (hlock : ∀ i, i ≠ t → (lock' = some i ↔ s.lock = some i)) :
    Red B ⟨s.db, lock', s.threads.set t x⟩ a := by
  have h' := h.set hth hxy hx hlock (.inl rfl)
  obtain ⟨hta, rfl⟩ := List.getElem?_eq_some_iff.mp hy
  rw [List.set_getElem_self, h.db] at h'
  rw [h.db]
  exact h'

/-- the end of a transaction, with result `res` and final transaction state `fin` -/
theorem red_end {B : Backend σ} (mode : TxnMode) {s : Conc σ ρ} {a : Atomic σ ρ} (h : Red B s a) {t : Nat} {β : Type}
    {cl : Uuid} {st fin : TxnSt σ} {body : TxnM β} {k : Option β → ReqM ρ} {res : Option β}
    (hth : s.threads[t]? = some (.inTxn cl st body k)) (hrun : body.runSt B cl st = (res, fin)) :
    ∃ a', stepAtomic B mode a t = some a' ∧
      Red B ⟨fin.finish mode, none, s.threads.set t (.outside (k res))⟩ a' := by
  obtain ⟨y, hy, hrel⟩ := red_thread B s a h t _ hth
  cases hrel with
  | inTxn _ _ _ body0 _ heq =>
  have hl : s.lock = some t := (h.lock_iff hth).1 rfl
  refine ⟨_, stepAtomic_of hy rfl, ?_⟩
  -- the atomic step runs `body0` from the database; by `heq` that is what is left of the body, run from `st`
  simp only [TxnM.run, ← h.db, ← heq, hrun]
  refine h.set hth (.outside (k res)) ⟨nofun, nofun⟩ ?_ (.inr hl)
  intro i hne
  simp [hl, Ne.symm hne]

/-- the reduced side stands still while a transaction is open (its begin, its calls) and takes the whole transaction
    when it ends or is aborted -/
theorem red_step (B : Backend σ) (mode : TxnMode) (s : Conc σ ρ) (a : Atomic σ ρ) (h : Red B s a)
    (t : Nat) (s' : Conc σ ρ) (hs : stepSmall B mode s t = some s') :
    Red B s' a ∨ ∃ a', stepAtomic B mode a t = some a' ∧ Red B s' a' := by
  revert hs
  -- the cases of `stepSmall`, in the order of its definition
  fun_cases stepSmall B mode s t with
  | case1 => nofun
  | case2 p hth => -- invocation
    rintro ⟨⟩
    obtain ⟨y, hy, hrel⟩ := red_thread B s a h t _ hth
    cases hrel
    refine .inr ⟨_, stepAtomic_of hy rfl, ?_⟩
    rw [← h.db]
    -- `(h.lock_iff hth :)`: the thread is outside a transaction before and after, so `isInTxn` computes to the same
    exact h.set hth (.outside p) (h.lock_iff hth :) (fun _ _ => Iff.rfl) (.inl rfl)
  | case3 => nofun
  | case4 r hth => -- response
    rintro ⟨⟩
    obtain ⟨y, hy, hrel⟩ := red_thread B s a h t _ hth
    cases hrel
    refine .inr ⟨_, stepAtomic_of hy rfl, ?_⟩
    rw [← h.db]
    exact h.set hth (.finished r) (h.lock_iff hth :) (fun _ _ => Iff.rfl) (.inl rfl)
  | case5 => nofun
  | case6 β cl body k hl hth => -- a transaction begins
    rintro ⟨⟩
    obtain ⟨y, hy, hrel⟩ := red_thread B s a h t _ hth
    cases hrel
    refine .inl (h.set_left hth hy (.inTxn cl _ body body k rfl) ⟨fun _ => rfl, fun _ => rfl⟩ ?_)
    intro i hne
    simp [hl, Ne.symm hne]
  | case7 β cl st x k hth => -- ... ends
    rintro ⟨⟩
    exact .inr (red_end mode h hth rfl)
  | case8 β cl st c k' k st' hstep hth => -- ... is aborted by a storage error
    rintro ⟨⟩
    exact .inr (red_end mode h hth (by rw [TxnM.runSt, hstep]))
  | case9 β cl st c k' k r st' hstep hth => -- one storage call
    rintro ⟨⟩
    obtain ⟨y, hy, hrel⟩ := red_thread B s a h t _ hth
    cases hrel with
    | inTxn _ _ _ body0 _ heq =>
    refine .inl (h.set_left hth hy (.inTxn cl _ _ body0 k ?_) (h.lock_iff hth :) (fun _ _ => Iff.rfl))
    rw [← heq, TxnM.runSt, hstep]

/-- `red_step` for runs: the reduced side answers one scheduler step by that step or by none -/
theorem red_step_run (B : Backend σ) (mode : TxnMode) (s : Conc σ ρ) (a : Atomic σ ρ) (h : Red B s a)
    (t : Nat) : ∃ pre, pre.Sublist [t] ∧ Red B (runSmall B mode s [t]) (runAtomic B mode a pre) := by
  simp only [runSmall]
  cases hst : stepSmall B mode s t with
  | none => exact ⟨[], List.nil_sublist _, h⟩
  | some s' =>
    rcases red_step B mode s a h t s' hst with h' | ⟨a', ha, h'⟩
    · exact ⟨[], List.nil_sublist _, h'⟩
    · refine ⟨[t], List.Sublist.refl _, ?_⟩
      simp only [runAtomic, ha]
      exact h'

/-- The reduced schedule only uses steps of threads the interleaved schedule used, in the same order: it is a
    sublist. And every prefix of the interleaved schedule is matched by a prefix of the reduced one (so "this
    request had been answered before that one was invoked" means the same in both). -/
theorem C03_reduction_prefix (B : Backend σ) (mode : TxnMode) (s : Conc σ ρ) (a : Atomic σ ρ)
    (h : Red B s a) (sched : List Nat) :
    ∃ sched', sched'.Sublist sched ∧ Red B (runSmall B mode s sched) (runAtomic B mode a sched') ∧
      ∀ s1 s2, sched = s1 ++ s2 →
        ∃ s1' s2', sched' = s1' ++ s2' ∧ Red B (runSmall B mode s s1) (runAtomic B mode a s1') := by
  induction sched generalizing s a with
  | nil =>
    refine ⟨[], List.Sublist.slnil, h, ?_⟩
    intro s1 s2 hs
    obtain ⟨rfl, _⟩ := List.append_eq_nil_iff.mp hs.symm
    exact ⟨[], [], rfl, h⟩
  | cons t ts ih =>
    obtain ⟨pre, hp, h1⟩ := red_step_run B mode s a h t
    obtain ⟨sched', hsub, hred, hpre⟩ := ih _ _ h1
    rw [← runSmall_cons, ← runAtomic_append] at hred
    refine ⟨pre ++ sched', hp.append hsub, hred, ?_⟩
    intro s1 s2 hs
    cases s1 with
    | nil => exact ⟨[], pre ++ sched', rfl, h⟩
    | cons x s1r =>
      simp only [List.cons_append, List.cons.injEq] at hs
      obtain ⟨rfl, hts⟩ := hs
      obtain ⟨s1', s2', e, h2⟩ := hpre s1r s2 hts
      rw [← runSmall_cons, ← runAtomic_append] at h2
      exact ⟨pre ++ s1', s2', by rw [e, List.append_assoc], h2⟩

theorem C03_reduction_sublist (B : Backend σ) (mode : TxnMode) (s : Conc σ ρ) (a : Atomic σ ρ)
    (h : Red B s a) (sched : List Nat) :
    ∃ sched', sched'.Sublist sched ∧ Red B (runSmall B mode s sched) (runAtomic B mode a sched') :=
  let ⟨sched', hsub, hred, _⟩ := C03_reduction_prefix B mode s a h sched
  ⟨sched', hsub, hred⟩

/-- every interleaved execution (any schedule, any number of threads, any programs) is matched by
    a reduced execution -/
theorem C03_reduction (B : Backend σ) (mode : TxnMode) (s : Conc σ ρ) (a : Atomic σ ρ)
    (h : Red B s a) (sched : List Nat) :
    ∃ sched', Red B (runSmall B mode s sched) (runAtomic B mode a sched') :=
  let ⟨sched', _, hred⟩ := C03_reduction_sublist B mode s a h sched
  ⟨sched', hred⟩

theorem red_init (B : Backend σ) (db : σ) (progs : List (ReqM ρ)) :
    Red B ⟨db, none, progs.map Th.idle⟩ ⟨db, progs.map Th.idle⟩ := by
  refine ⟨rfl, rfl, ?_, ?_, ?_⟩
  · intro i h1 h2
    simp only [List.getElem_map]
    exact .idle _
  · intro t ht; cases ht
  · intro i hi hin
    simp only [List.getElem_map, Th.isInTxn] at hin
    cases hin

theorem red_resp (B : Backend σ) (s : Conc σ ρ) (a : Atomic σ ρ) (h : Red B s a) :
    s.threads.map Th.resp = a.threads.map Th.resp := by
  apply List.ext_getElem
  · simp [h.len]
  · intro i h1 h2
    simp only [List.getElem_map]
    exact (h.rel i _ _).resp

theorem red_db (B : Backend σ) (s : Conc σ ρ) (a : Atomic σ ρ) (h : Red B s a) : s.db = a.db :=
  h.db

end Tcs
