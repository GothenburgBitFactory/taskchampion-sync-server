import Tcs.Spec.Abs
import Tcs.Proofs.ListLemmas
namespace Tcs

/-! What a successful call of the abstract storage means: the inversion lemmas of `AS.exec` both simulations rest on, and the per-call
    obligation `SimCall` they discharge with them. -/

theorem AS.ext' {a b : AS} (h1 : ∀ d, a.st d = b.st d) (h2 : a.ids = b.ids) : a = b := by
  cases a
  cases b
  simp only [AS.mk.injEq]
  exact ⟨funext h1, h2⟩

/-- a state that differs from `a` in the record of `cl` (and in the id set) only -/
theorem AS.eq_upd {a b : AS} {cl : Uuid} {x : CSt} {ids : List Uuid} (hcl : b.st cl = x)
    (hother : ∀ d, d ≠ cl → b.st d = a.st d) (hids : b.ids = ids) : b = ⟨upd a.st cl x, ids⟩ := by
  refine AS.ext' (fun d => ?_) hids
  by_cases hd : d = cl
  · subst hd; exact hcl.trans (upd_same _ _ _).symm
  · exact (hother d hd).trans (upd_other _ _ _ _ hd).symm

theorem AS.newClient_ok {cl l : Uuid} {a a' : AS} {r : Unit} (h : AS.exec cl (.newClient l) a = (.ok r, a')) :
    (a.st cl).client = none ∧ a' = { a with st := upd a.st cl { (a.st cl) with client := some ⟨l, none⟩ } } := by
  simp only [AS.exec] at h
  split at h
  · cases h
  · next hc => cases h; exact ⟨hc, rfl⟩

theorem AS.setSnapshot_ok {cl : Uuid} {sn : Snapshot} {d : Bytes} {a a' : AS} {r : Unit}
    (h : AS.exec cl (.setSnapshot sn d) a = (.ok r, a')) :
    ∃ c, (a.st cl).client = some c ∧
      a' = { a with st := upd a.st cl { (a.st cl) with client := some { c with snap := some sn }, data := some d } } := by
  simp only [AS.exec] at h
  split at h
  · cases h
  · next c hc => cases h; exact ⟨c, hc, rfl⟩

theorem AS.addVersion_ok {cl v p : Uuid} {seg : Bytes} {a a' : AS} {r : Unit}
    (h : AS.exec cl (.addVersion v p seg) a = (.ok r, a')) :
    ∃ c, (a.st cl).client = some c ∧ v ∉ a.ids ∧ (∀ x ∈ (a.st cl).versions, x.parent ≠ p) ∧
      a' = { st := upd a.st cl { (a.st cl) with client := some { latest := v, snap := c.snap.map bump },
                                                versions := (a.st cl).versions ++ [⟨v, p, seg⟩] },
             ids := a.ids ++ [v] } := by
  simp only [AS.exec] at h
  split at h
  · cases h
  · next c hc =>
    split at h
    · cases h
    · next hv =>
      split at h
      · cases h
      · next hp =>
        cases h
        exact ⟨c, hc, hv, fun x hx hxp => hp (List.any_eq_true.2 ⟨x, hx, decide_eq_true hxp⟩), rfl⟩

theorem AS.getSnapshotData_ok {cl v : Uuid} {a a' : AS} {r : Option Bytes}
    (h : AS.exec cl (.getSnapshotData v) a = (.ok r, a')) :
    ∃ c d, (a.st cl).client = some c ∧ c.snap.map (·.vid) = some v ∧ (a.st cl).data = some d ∧ r = some d ∧ a' = a := by
  simp only [AS.exec] at h
  split at h
  · cases h
  · next c hc =>
    split at h
    · next hv =>
      split at h
      · next d hd => cases h; exact ⟨c, d, hc, hv, hd, rfl, rfl⟩
      · cases h
    · cases h


/-- the per-call obligation of `Sim` -/
def SimCall {σ} (B : Backend σ) (abs : σ → AS) (Rep : σ → Prop) (cl : Uuid) (c : Call) : Prop :=
  ∀ (s : σ) (r : c.Resp) (a' : AS), Rep s → AS.exec cl c (abs s) = (.ok r, a') →
    (B.exec cl c s).1 = .ok r ∧ abs (B.exec cl c s).2 = a' ∧ Rep (B.exec cl c s).2

/-- a call that changes neither side: only the answers have to agree -/
theorem SimCall.of_read {σ} {B : Backend σ} {abs : σ → AS} {Rep : σ → Prop} {cl : Uuid} {c : Call}
    (hB : ∀ s, (B.exec cl c s).2 = s) (hA : ∀ a, (AS.exec cl c a).2 = a)
    (hr : ∀ s, Rep s → ∀ r, (AS.exec cl c (abs s)).1 = .ok r → (B.exec cl c s).1 = .ok r) : SimCall B abs Rep cl c := by
  intro s r a' hrep h
  rw [hB s]
  exact ⟨hr s hrep r (congrArg Prod.fst h), (hA _).symm.trans (congrArg Prod.snd h), hrep⟩

end Tcs
