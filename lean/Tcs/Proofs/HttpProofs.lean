import Tcs.Spec.HttpSpec
import Tcs.Proofs.Dispatch
namespace Tcs

/-! The HTTP layer factors as validation → protocol request → encoding → default header (`serve_factor`); around it, what
    `ReqM.map` does under each interpreter, the body loop `assemble` in closed form, and the inversion of `parseReq`. -/

theorem respond_500 (o : Out) : (respond o).status = 500 ↔ o = .storageError := by
  cases o <;> simp [respond, refuse, Refusal.status]

theorem refusal_status (f : Refusal) : (refuse f).status = 403 ∨ (refuse f).status = 400 ∨ (refuse f).status = 404 := by
  cases f <;> simp [refuse, Refusal.status]

theorem map_done {α β} (f : α → β) (a : α) : (ReqM.done a).map f = .done (f a) := rfl

theorem map_txn {α β γ} (f : α → β) (c : Uuid) (body : TxnM γ) (k : Option γ → ReqM α) :
    (ReqM.txn c body k).map f = .txn c body (fun r => (k r).map f) := rfl

theorem map_map {α β γ} (f : α → β) (g : β → γ) (p : ReqM α) : (p.map f).map g = p.map (fun a => g (f a)) := by
  induction p with
  | done a => rfl
  | txn c body k ih =>
    simp only [map_txn]
    congr
    funext r
    exact ih r

theorem avReq_map (cfg : Config) (ens : TxnM Unit) (c p : Uuid) (seg : Bytes) (newId : Uuid) (now : Int) (fuel : Nat) :
    (avReq cfg ens c p seg newId now fuel).map respond = addVersionLoop cfg ens c p seg newId now fuel := by
  induction fuel with
  | zero => rfl
  | succ n ih =>
    refine congrArg (ReqM.txn c _) (funext fun x => ?_)
    match x with
    | none | some (.ok (.ok _, _)) | some (.ok (.expected _, _)) => rfl
    | some (.error .noSuchClient) =>
      refine congrArg (ReqM.txn c ens) (funext fun y => ?_)
      cases y with
      | none => rfl
      | some _ => exact ih

theorem one_map {α β} (c : Uuid) (body : TxnM (Except SrvErr α)) (f : α → Out) (g : Out → β) :
    (one c body f).map g = .txn c body (fun
      | none => .done (g .storageError)
      | some (.ok a) => .done (g (f a))
      | some (.error .noSuchClient) => .done (g .noSuchClient)) := by
  refine congrArg (ReqM.txn c body) (funext fun x => ?_)
  rcases x with _ | ⟨⟨⟩ | _⟩ <;> rfl

theorem serve_factor (h : HttpCfg) (r : Request) :
    serve h r = match parseReq h r with
      | .index => .done (addCC { status := 200, ctype := some "text/plain; charset=utf-8" })
      | .unknown => .done (addCC { status := 404 })
      | .refused f => .done (addCC (refuse f))
      | .ev e => (e.req (sysOf h)).map (fun o => addCC (respond o)) := by
  refine dispatch_rel (fun x (q : Parsed) => ReqM.map addCC x = match q with
      | .index => .done (addCC { status := 200, ctype := some "text/plain; charset=utf-8" })
      | .unknown => .done (addCC { status := 404 })
      | .refused f => .done (addCC (refuse f))
      | .ev e => (e.req (sysOf h)).map (fun o => addCC (respond o)))
    r.method (pathSegments r.path) ?_ (fun seg => ?_) (fun seg => ?_) ?_ (fun seg => ?_) ?_
  -- `route h r` and `parseReq h r` are matched against `dispatch …` by unfolding (see the head of Dispatch.lean); what
  -- is left is one goal per route. Arm by arm the two run through the same checks; where a protocol request results,
  -- its encoding is the handler's.
  · rfl
  · cases pathId seg with
    | none => rfl
    | some p =>
      cases clientIdHeader h.allow r with
      | error f => rfl
      | ok c =>
        refine congrArg (ReqM.txn c _) (funext fun x => ?_)
        rcases x with _ | ⟨⟨⟩ | _ | _ | _⟩ <;> rfl
  · cases pathId seg with
    | none => rfl
    | some p =>
      dsimp only
      by_cases hct : contentType r ≠ HS_CT.toUTF8.toList
      · rw [if_pos hct, if_pos hct]; rfl
      · rw [if_neg hct, if_neg hct]
        cases clientIdHeader h.allow r with
        | error f => rfl
        | ok c =>
          cases assemble h.params.maxSize r.chunks ByteArray.empty with
          | none => rfl
          | some body =>
            dsimp only
            by_cases hb : body.size = 0
            · rw [if_pos hb, if_pos hb]; rfl
            · rw [if_neg hb, if_neg hb]
              exact (congrArg (ReqM.map addCC) (avReq_map ..).symm).trans (map_map ..)
  · cases clientIdHeader h.allow r with
    | error f => rfl
    | ok c =>
      refine congrArg (ReqM.txn c _) (funext fun x => ?_)
      rcases x with _ | ⟨⟨⟩ | _ | ⟨_, _⟩⟩ <;> rfl
  · cases pathId seg with
    | none => rfl
    | some p =>
      dsimp only
      by_cases hct : contentType r ≠ SNAP_CT.toUTF8.toList
      · rw [if_pos hct, if_pos hct]; rfl
      · rw [if_neg hct, if_neg hct]
        cases clientIdHeader h.allow r with
        | error f => rfl
        | ok c =>
          cases assemble h.params.maxSizeSnap r.chunks ByteArray.empty with
          | none => rfl
          | some body =>
            dsimp only
            by_cases hb : body.size = 0
            · rw [if_pos hb, if_pos hb]; rfl
            · rw [if_neg hb, if_neg hb]
              refine congrArg (ReqM.txn c _) (funext fun x => ?_)
              rcases x with _ | ⟨⟨⟩ | _⟩ <;> rfl
  · rfl

theorem map_runC {σ α β} (B : Backend σ) (mode : TxnMode) (f : α → β) (p : ReqM α) (s : σ) :
    (p.map f).runC B mode s = (f (p.runC B mode s).1, (p.runC B mode s).2.1, (p.runC B mode s).2.2) := by
  induction p generalizing s with
  | done a => rfl
  | txn c body k ih => simp only [map_txn, ReqM.runC, ih]

theorem map_run {σ α β} (B : Backend σ) (mode : TxnMode) (f : α → β) (p : ReqM α) (s : σ) :
    (p.map f).run B mode s = (f (p.run B mode s).1, (p.run B mode s).2) := by
  simp only [ReqM.run, map_runC]

theorem map_txnCount {σ α β} (B : Backend σ) (mode : TxnMode) (f : α → β) (p : ReqM α) (s : σ) :
    (p.map f).txnCount B mode s = p.txnCount B mode s := by
  induction p generalizing s with
  | done a => rfl
  | txn c body k ih => simp only [map_txn, ReqM.txnCount, ih]

theorem foldl_append_size (chunks : List Bytes) (acc : Bytes) :
    (chunks.foldl (· ++ ·) acc).size = acc.size + (chunks.map (·.size)).sum := by
  induction chunks generalizing acc with
  | nil => simp
  | cons ch rest ih => simp only [List.foldl_cons, ih, ByteArray.size_append, List.map_cons, List.sum_cons]; omega

/-- the statement without a bound on the accumulator is false: an accumulator that is already over the limit is
    returned unchanged when no chunk follows (the loop only checks when a chunk arrives) -/
example : assemble 0 [] ⟨#[1]⟩ ≠
    (if (⟨#[1]⟩ : Bytes).size + (([] : List Bytes).map (·.size)).sum ≤ 0 then some (([] : List Bytes).foldl (· ++ ·) ⟨#[1]⟩) else none) := by
  decide

/-- the body loop: accepted iff the total size is within the limit, and then the body is the concatenation of the chunks,
    for every chunking (the accumulator starts within the limit; the handlers start from the empty body) -/
theorem assemble_spec (maxSize : Nat) (chunks : List Bytes) (acc : Bytes) (hacc : acc.size ≤ maxSize) :
    assemble maxSize chunks acc =
      if acc.size + (chunks.map (·.size)).sum ≤ maxSize then some (chunks.foldl (· ++ ·) acc) else none := by
  induction chunks generalizing acc with
  | nil => exact (if_pos hacc).symm
  | cons ch rest ih =>
    -- in terms of the size of `acc ++ ch` this is the induction hypothesis
    rw [assemble, List.map_cons, List.sum_cons, List.foldl_cons, ← Nat.add_assoc, ← ByteArray.size_append]
    by_cases h : (acc ++ ch).size > maxSize
    · rw [if_pos h, if_neg (Nat.not_le.2 (Nat.lt_of_lt_of_le h (Nat.le_add_right _ _)))]
    · rw [if_neg h, ih _ (Nat.le_of_not_lt h)]

theorem assemble_empty (maxSize : Nat) (chunks : List Bytes) :
    assemble maxSize chunks ByteArray.empty =
      if (chunks.map (·.size)).sum ≤ maxSize then some (chunks.foldl (· ++ ·) ByteArray.empty) else none := by
  simpa using assemble_spec maxSize chunks ByteArray.empty (by simp)

theorem parseReq_ev_inv (h : HttpCfg) (r : Request) (e : Ev) (hp : parseReq h r = .ev e) :
    ∃ c, clientIdHeader h.allow r = .ok c ∧
      ((∃ p, e = .gcv c p) ∨
       (∃ p body, e = .av c p body r.newId r.now ∧ contentType r = HS_CT.toUTF8.toList ∧
          assemble h.params.maxSize r.chunks ByteArray.empty = some body ∧ body.size ≠ 0) ∨
       e = .gs c ∨
       (∃ v body, e = .as c v body r.now ∧ contentType r = SNAP_CT.toUTF8.toList ∧
          assemble h.params.maxSizeSnap r.chunks ByteArray.empty = some body ∧ body.size ≠ 0)) := by
  -- Route by route, each `split at hp` is one check of that route, in the handler's order. Where the check fails `hp`
  -- reads `.refused _ = .ev e`; where it passes it leaves its fact in the context, and the last bullet of a route
  -- collects these facts by their statements (`‹_›`).
  unfold parseReq at hp
  split at hp
  · cases hp  -- GET /
  · -- GET get-child-version: path id, client id
    split at hp
    · cases hp
    · split at hp
      · cases hp
      · cases hp; exact ⟨_, ‹_›, .inl ⟨_, rfl⟩⟩
  · -- POST add-version: path id, content type, client id, body within the limit, body not empty
    split at hp
    · cases hp
    · split at hp
      · cases hp
      · split at hp
        · cases hp
        · split at hp
          · cases hp
          · split at hp
            · cases hp
            · cases hp; exact ⟨_, ‹_›, .inr (.inl ⟨_, _, rfl, Decidable.of_not_not ‹_›, ‹_›, ‹_›⟩)⟩
  · -- GET snapshot: client id
    split at hp
    · cases hp
    · cases hp; exact ⟨_, ‹_›, .inr (.inr (.inl rfl))⟩
  · -- POST add-snapshot: the checks of add-version
    split at hp
    · cases hp
    · split at hp
      · cases hp
      · split at hp
        · cases hp
        · split at hp
          · cases hp
          · split at hp
            · cases hp
            · cases hp; exact ⟨_, ‹_›, .inr (.inr (.inr ⟨_, _, rfl, Decidable.of_not_not ‹_›, ‹_›, ‹_›⟩))⟩
  · cases hp  -- any other method or path

/-- a protocol request made from `r` is for the client that passed the client-id check, and draws no id but `r.newId` -/
theorem parseReq_ev_client (h : HttpCfg) (r : Request) (e : Ev) (hp : parseReq h r = .ev e) :
    ∃ c, clientIdHeader h.allow r = .ok c ∧ e.client = some c ∧ ∀ n, e.drawn = some n → n = r.newId := by
  obtain ⟨c, hc, he⟩ := parseReq_ev_inv h r e hp
  refine ⟨c, hc, ?_⟩
  rcases he with ⟨p, rfl⟩ | ⟨p, b, rfl, _⟩ | rfl | ⟨v, b, rfl, _⟩ <;> exact ⟨rfl, fun _ hn => by cases hn <;> rfl⟩

end Tcs
