import Tcs.Proofs.ASExec
namespace Tcs

/-! Simulation of the SQLite backend `Sql` by the abstract storage `AS`, from two facts about the `clients` table
    (`UPDATE … WHERE client_id`, `INSERT OR REPLACE`) and the shared inversion lemmas of `AS.exec`. -/

/-- `UPDATE clients SET … WHERE client_id = cl` (not touching `client_id`), seen through the lookup by `client_id` -/
theorem find_update (l : List ClientRow) (g : ClientRow → ClientRow) (hg : ∀ r, (g r).clientId = r.clientId) (cl d : Uuid) :
    (l.map fun r => if r.clientId = cl then g r else r).find? (·.clientId = d) =
      (l.find? (·.clientId = d)).map fun r => if d = cl then g r else r := by
  induction l with
  | nil => rfl
  | cons x xs ih =>
    have hx : (if x.clientId = cl then g x else x).clientId = x.clientId := by split <;> simp [hg]
    simp only [List.map_cons, List.find?_cons, hx]
    by_cases h : x.clientId = d
    · simp [h]
    · simp [h, ih]

/-- `INSERT OR REPLACE INTO clients`, seen through the lookup by `client_id` -/
theorem find_replace (l : List ClientRow) (r0 : ClientRow) (d : Uuid) :
    (l.filter (·.clientId ≠ r0.clientId) ++ [r0]).find? (·.clientId = d) =
      if d = r0.clientId then some r0 else l.find? (·.clientId = d) := by
  by_cases hd : d = r0.clientId
  · subst hd
    rw [if_pos rfl, List.find?_append, List.find?_eq_none.2 (by simp), Option.none_or]
    simp
  · have hf : ∀ x : ClientRow, decide (decide (x.clientId ≠ r0.clientId) = true ∧ decide (x.clientId = d) = true) =
        decide (x.clientId = d) := by
      intro x; by_cases h : x.clientId = d <;> simp [h, hd]
    rw [if_neg hd, List.find?_append, List.find?_filter]
    simp only [hf]
    simp [Ne.symm hd]


theorem snapVid_of_toClient {r : ClientRow} {v : Uuid} (h : r.toClient.snap.map (·.vid) = some v) : r.snapVid = some v := by
  obtain ⟨cid, lat, sv, sn, ts, sp⟩ := r
  cases sv <;> cases sn <;> cases ts <;> simp_all [ClientRow.toClient]

theorem abs_client {s : Sql} {cl : Uuid} {c : Client} (h : ((Sql.abs s).st cl).client = some c) :
    ∃ row, s.clients.find? (·.clientId = cl) = some row ∧ row.toClient = c :=
  Option.map_eq_some_iff.1 h

abbrev SqlCall := SimCall SqlB Sql.abs Sql.Rep

theorem sql_getClient (cl : Uuid) : SqlCall cl .getClient :=
  .of_read (fun _ => rfl) (fun _ => rfl) fun _ _ _ h => h

theorem sql_commit (cl : Uuid) : SqlCall cl .commit :=
  .of_read (fun _ => rfl) (fun _ => rfl) fun _ _ _ h => h

theorem sql_getByParent (cl p : Uuid) : SqlCall cl (.getByParent p) :=
  .of_read (fun _ => rfl) (fun _ => rfl) fun s _ r h => by
    rw [← h]
    exact congrArg Except.ok (find?_filter_map s.versions (·.clientId = cl) (·.toVersion) (·.parent = p))

theorem sql_getVersion (cl v : Uuid) : SqlCall cl (.getVersion v) :=
  .of_read (fun _ => rfl) (fun _ => rfl) fun s _ r h => by
    rw [← h]
    exact congrArg Except.ok (find?_filter_map s.versions (·.clientId = cl) (·.toVersion) (·.id = v))

theorem sql_getSnapshotData (cl v : Uuid) : SqlCall cl (.getSnapshotData v) := by
  intro s r a' hrep h
  obtain ⟨c, d, hc, hv, hd, rfl, rfl⟩ := AS.getSnapshotData_ok h
  obtain ⟨row, hrow, rfl⟩ := abs_client hc
  have hsnap : row.snap = some d := by simpa [Sql.abs, hrow] using hd
  simp only [SqlB, Sql.exec, hrow, snapVid_of_toClient hv, hsnap, ne_eq, not_true, if_false]
  exact ⟨trivial, trivial, hrep⟩


theorem Sql.abs_st (s : Sql) (d : Uuid) : (Sql.abs s).st d =
    { client := (s.clients.find? (·.clientId = d)).map ClientRow.toClient,
      data := (s.clients.find? (·.clientId = d)).bind (·.snap),
      versions := (s.versions.filter (·.clientId = d)).map (·.toVersion) } := rfl

theorem sql_newClient (cl l : Uuid) : SqlCall cl (.newClient l) := by
  intro s r a' hrep h
  obtain ⟨hc, rfl⟩ := AS.newClient_ok h
  have hnone : s.clients.find? (·.clientId = cl) = none := Option.map_eq_none_iff.1 hc
  have hf := find_replace s.clients { clientId := cl, latest := l }
  refine ⟨rfl, AS.eq_upd ?_ (fun d hd => ?_) rfl, ?_⟩
  · simp only [SqlB, Sql.exec, Sql.abs_st, hf, hnone, if_true]; rfl
  · simp only [SqlB, Sql.exec, Sql.abs_st, hf, hd, if_false]
  · intro row hrow
    rcases List.mem_append.1 hrow with hrow | hrow
    · exact hrep row (List.mem_filter.1 hrow).1
    · cases List.mem_singleton.1 hrow; exact ⟨rfl, rfl, rfl⟩


theorem sql_setSnapshot (cl : Uuid) (sn : Snapshot) (dat : Bytes) : SqlCall cl (.setSnapshot sn dat) := by
  intro s r a' hrep h
  obtain ⟨c, hc, rfl⟩ := AS.setSnapshot_ok h
  obtain ⟨row, hrow, rfl⟩ := abs_client hc
  have hf := find_update s.clients (fun r =>
    { r with snapVid := some sn.vid, ts := some sn.ts, since := some sn.since, snap := some dat }) (fun _ => rfl) cl
  refine ⟨rfl, AS.eq_upd ?_ (fun d hd => ?_) rfl, ?_⟩
  · simp only [SqlB, Sql.exec, Sql.abs_st, hf, hrow, if_true, Option.map_some, Option.bind_some]; rfl
  · simp only [SqlB, Sql.exec, Sql.abs_st, hf, hd, if_false, Option.map_id']
  · intro x hx
    obtain ⟨y, hy, rfl⟩ := List.mem_map.1 hx
    split
    · exact ⟨rfl, rfl, rfl⟩
    · exact hrep y hy

/-- the `UPDATE` of `add_version` on a row is `latest := v`, counter bumped, on the abstract record -/
theorem toClient_added (r : ClientRow) (v : Uuid) :
    ({ r with latest := v, since := r.since.map (· + 1) } : ClientRow).toClient = ⟨v, r.toClient.snap.map bump⟩ := by
  obtain ⟨cid, lat, sv, sn, ts, sp⟩ := r
  cases sv <;> cases sn <;> cases ts <;> rfl

theorem sql_addVersion (cl v p : Uuid) (seg : Bytes) : SqlCall cl (.addVersion v p seg) := by
  intro s r a' hrep h
  obtain ⟨c, hc, hv, -, rfl⟩ := AS.addVersion_ok h
  obtain ⟨row, hrow, rfl⟩ := abs_client hc
  have hany : s.versions.any (·.versionId = v) = false :=
    List.any_eq_false.2 fun x hx hxv => hv (List.mem_map.2 ⟨x, hx, of_decide_eq_true hxv⟩)
  have hf := find_update s.clients (fun r => { r with latest := v, since := r.since.map (· + 1) }) (fun _ => rfl) cl
  simp only [SqlB, Sql.exec, hany, Bool.false_eq_true, if_false]
  refine ⟨trivial, AS.eq_upd ?_ (fun d hd => ?_) ?_, ?_⟩
  · simp only [Sql.abs_st, hf, hrow, if_true, Option.map_some, Option.bind_some, toClient_added, List.filter_append,
      List.map_append]
    simp [VersionRow.toVersion]
  · simp only [Sql.abs_st, hf, hd, if_false, Option.map_id', List.filter_append]
    simp [Ne.symm hd]
  · simp [Sql.abs]
  · intro x hx
    obtain ⟨y, hy, rfl⟩ := List.mem_map.1 hx
    split
    · simpa using hrep y hy
    · exact hrep y hy

theorem sqlSim : Sim SqlB Sql.abs Sql.Rep := by
  constructor
  intro cl c
  cases c with
  | getClient => exact sql_getClient cl
  | newClient l => exact sql_newClient cl l
  | setSnapshot sn d => exact sql_setSnapshot cl sn d
  | getSnapshotData v => exact sql_getSnapshotData cl v
  | getByParent p => exact sql_getByParent cl p
  | getVersion v => exact sql_getVersion cl v
  | addVersion v p seg => exact sql_addVersion cl v p seg
  | commit => exact sql_commit cl

theorem sqlRep_init : Sql.Rep ({} : Sql) := fun _ hr => nomatch hr

theorem sqlAbs_init : Sql.abs ({} : Sql) = ({} : AS) := rfl

end Tcs
