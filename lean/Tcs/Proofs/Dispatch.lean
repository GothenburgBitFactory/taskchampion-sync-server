import Tcs.Model.Http
namespace Tcs

/-! The route table once, with the arms as variables. `route` (Model/Http.lean) and `parseReq` (Spec/HttpSpec.lean) are
    each written out as a match of their own on `(r.method, pathSegments r.path)`; neither mentions `dispatch`. Each is
    definitionally `dispatch r.method (pathSegments r.path) …` with its arms in the order below, and that is how the
    proofs use them: `refine dispatch_rel R r.method (pathSegments r.path) …` against a goal about `route h r` and
    `parseReq h r` makes the unifier unfold both and read off the arms, so only the arm-wise goals remain and the string
    patterns are split once, here, on variables. Reordering the patterns of one of the two matches, or changing a
    pattern, breaks that unification: `serve_factor` and `parseReq_check_fails` then fail at their `refine dispatch_rel`
    line, and `dispatch` has to follow. -/

/-- the route table of `WebServer::config` -/
def dispatch.{u} {α : Type u} (m : String) (segs : List String) (index : α) (getChild addVersion : String → α)
    (getSnapshot : α) (addSnapshot : String → α) (unknown : α) : α :=
  match m, segs with
  | "GET", [""] => index
  | "GET", ["v1", "client", "get-child-version", seg] => getChild seg
  | "POST", ["v1", "client", "add-version", seg] => addVersion seg
  | "GET", ["v1", "client", "snapshot"] => getSnapshot
  | "POST", ["v1", "client", "add-snapshot", seg] => addSnapshot seg
  | _, _ => unknown

theorem dispatch_rel.{u, v} {α : Type u} {β : Type v} (R : α → β → Prop) (m : String) (segs : List String)
    {i : α} {g a : String → α} {gs : α} {as : String → α} {u : α}
    {i' : β} {g' a' : String → β} {gs' : β} {as' : String → β} {u' : β}
    (hi : R i i') (hg : ∀ s, R (g s) (g' s)) (ha : ∀ s, R (a s) (a' s)) (hgs : R gs gs') (has : ∀ s, R (as s) (as' s))
    (hu : R u u') : R (dispatch m segs i g a gs as u) (dispatch m segs i' g' a' gs' as' u') := by
  unfold dispatch
  split
  · exact hi
  · exact hg _
  · exact ha _
  · exact hgs
  · exact has _
  · exact hu

end Tcs
