import Tcs.Model.Config
namespace Tcs

/-! # C17 – the server binary honours its command-line and environment configuration
    Theorems about the resolution model `resolve`; that the real `main` behaves as
    `serve (httpCfgOf (resolve argv env))` is what the process-level correspondence establishes and, for the
    declarations and the wiring in the source, `Proofs/CliSrcAll.lean` (`cliSrc_main`). -/

/-- a value given on the command line replaces the environment value entirely (every argument) -/
theorem C17_flag_over_env (flag : List String) (hf : flag ≠ []) (env env' : Option String) (d : Bool) :
    rawValues flag env d = rawValues flag env' d := by
  simp [rawValues, hf]

theorem C17_resolve_ignores_env_when_flags (c : Cli) (hl : c.listenFlag ≠ []) (hd : c.dataDirFlag ≠ []) (ha : c.allowFlag ≠ [])
    (hv : c.versionsFlag ≠ []) (hy : c.daysFlag ≠ []) (e1 e2 e3 e4 e5 : Option String) :
    resolve { c with listenEnv := e1, dataDirEnv := e2, allowEnv := e3, versionsEnv := e4, daysEnv := e5 } = resolve c := by
  simp [resolve, versionsOf, daysOf, allowOf, single, rawValues, hl, hd, ha, hv, hy]

/-- without a flag the environment variable is used -/
theorem C17_env_used_when_no_flag (env : Option String) (d : Bool) :
    rawValues [] env d = env.map (fun e => if d then e.splitOn "," else [e]) := by
  cases env <;> simp [rawValues]

/-- defaults: 14 days, 100 versions, /var/lib/taskchampion-sync-server, no allow-list -/
theorem C17_defaults (l : List String) (hl : l ≠ []) :
    resolve { listenFlag := l } =
      some { dataDir := "/var/lib/taskchampion-sync-server", snapshotVersions := 100, snapshotDays := 14, allow := none,
             listen := l.flatMap (·.splitOn ",") } := by
  simp [resolve, versionsOf, daysOf, allowOf, single, rawValues, hl, DEFAULT_DATA_DIR, DEFAULT_VERSIONS, DEFAULT_DAYS]

/-- no listen address at all is a usage error (the argument is required) -/
theorem C17_listen_required (c : Cli) (h1 : c.listenFlag = []) (h2 : c.listenEnv = none) : resolve c = none := by
  simp [resolve, rawValues, h1, h2]

/-! Where the values of a multi-valued argument come from: nowhere iff neither flag nor variable is present; otherwise from
    the flag occurrences if there are any, else from the variable, each split at ','. These two facts about `rawValues`,
    with `resolve_some`, are what the theorems below about the listen addresses and the allow-list rest on. -/

theorem rawValues_none (flag : List String) (env : Option String) (d : Bool) :
    rawValues flag env d = none ↔ flag = [] ∧ env = none := by
  by_cases hf : flag = [] <;> simp [rawValues, hf]

theorem rawValues_some {flag : List String} {env : Option String} {l : List String} (h : rawValues flag env true = some l) :
    l = (if flag ≠ [] then flag else env.toList).flatMap (·.splitOn ",") := by
  by_cases hf : flag = [] <;> cases env <;> simp_all [rawValues]

/-- `resolve` inverted: every field of a resolved configuration comes from its own argument -/
theorem resolve_some {c : Cli} {a : ServerArgs} (h : resolve c = some a) :
    rawValues c.listenFlag c.listenEnv true = some a.listen ∧ versionsOf c = some a.snapshotVersions ∧
      daysOf c = some a.snapshotDays ∧ allowOf c = some a.allow ∧
      a.dataDir = (single c.dataDirFlag c.dataDirEnv).getD DEFAULT_DATA_DIR := by
  simp only [resolve, Option.bind_eq_some_iff, Option.some.injEq] at h
  obtain ⟨l, hl, v, hv, d, hd, al, ha, rfl⟩ := h
  exact ⟨hl, hv, hd, ha, rfl⟩

/-- every address given – by repeated flag or ','-separated – is in the bind list, in order, and nothing else -/
theorem C17_listen_all (c : Cli) (a : ServerArgs) (h : resolve c = some a) :
    a.listen = (if c.listenFlag ≠ [] then c.listenFlag else c.listenEnv.toList).flatMap (·.splitOn ",") :=
  rawValues_some (resolve_some h).1

/-- the allow-list is absent iff neither flag nor variable is present; otherwise exactly the parsed ids -/
theorem C17_allowlist_exact (c : Cli) (a : ServerArgs) (h : resolve c = some a) :
    (a.allow = none ↔ (c.allowFlag = [] ∧ c.allowEnv = none)) ∧
    (∀ l, a.allow = some l → ((if c.allowFlag ≠ [] then c.allowFlag else c.allowEnv.toList).flatMap (·.splitOn ",")).mapM (fun s => parseUuid s.toUTF8.toList) = some l) := by
  have ha := (resolve_some h).2.2.2.1
  generalize a.allow = al at ha
  rw [← rawValues_none _ _ true]
  unfold allowOf at ha
  split at ha
  · next hr => cases ha; simp [hr]
  · next ids hr =>
    obtain ⟨ul, hul, rfl⟩ := Option.map_eq_some_iff.mp ha
    cases rawValues_some hr
    simpa [hr] using hul

/-- the targets handed to the server are the resolved ones -/
theorem C17_wiring (a : ServerArgs) : (httpCfgOf a).cfg = ⟨a.snapshotDays, a.snapshotVersions⟩ ∧ (httpCfgOf a).allow = a.allow := ⟨rfl, rfl⟩

example : rawValues ["x", "y"] (some "z") false = some ["x", "y"] ∧ rawValues [] (some "z") false = some ["z"] ∧
    rawValues [] none true = none := by decide

/-- the server either listens on EVERY address given or does not come up: a single address that cannot be bound
    aborts start-up (each `bind` is followed by `?` in `main`) -/
theorem C17_listen_all_or_nothing (a : ServerArgs) (busy : List String) :
    (∀ l, startup a busy = some l → l = a.listen ∧ ∀ x ∈ a.listen, x ∉ busy) ∧
    (startup a busy = none ↔ ∃ x ∈ a.listen, x ∈ busy) := by
  -- the test of `startup`, as a statement about the two lists
  have hany : (a.listen.any fun x => busy.contains x) = true ↔ ∃ x ∈ a.listen, x ∈ busy := by
    simp only [List.any_eq_true, List.contains_iff_mem]
  unfold startup
  split
  · next hb => exact ⟨nofun, fun _ => hany.1 hb, fun _ => rfl⟩
  · next hb =>
    refine ⟨fun l h => ⟨(Option.some.inj h).symm, fun x hx hxb => hb (hany.2 ⟨x, hx, hxb⟩)⟩, nofun, fun h => absurd (hany.2 h) hb⟩

end Tcs
