import Tcs.Proofs.Reduction
import Tcs.Proofs.LinImpl
import Tcs.Props.C01
import Tcs.Props.C14
namespace Tcs

/-! # C03 – concurrent requests for one client behave as if executed one at a time

The theorem is about the small-step interleaving semantics `runSmall` (`Model/Sem/Conc.lean`): any
number of requests, each the *program* of the HTTP handlers (`Ev.req`), interleaved by an arbitrary
schedule at the granularity of individual storage calls and transaction begin/end, on any backend
tied to the abstract storage (`Impl`: both shipped backends). The only thing assumed of the
environment is what `stepSmall` says: a transaction can begin only while no other is open.

Three layers: `C03_reduction_prefix` (interleaved ≡ transaction-atomic, prefix by prefix),
`runinv_run` (atomic programs on the backend ≡ the specification machine, given fresh ids),
`machine_linearizable` (the machine is linearizable modulo F3). -/

variable {σ : Type}

/-- the initial configuration: nobody invoked yet -/
def cinit (S : Sys) (evs : List Ev) (s0 : σ) : Conc σ Out := ⟨s0, none, (evs.map (·.req S)).map Th.idle⟩
def ainit (S : Sys) (evs : List Ev) (s0 : σ) : Atomic σ Out := ⟨s0, (evs.map (·.req S)).map Th.idle⟩

/-- "request `t` had been answered before request `u` was invoked" in the execution under schedule `sch` -/
def Precedes (I : Impl σ) (S : Sys) (evs : List Ev) (s0 : σ) (sch : List Nat) (t u : Nat) : Prop :=
  ∃ (p q : List Nat) (o : Out) (pr : ReqM Out), sch = p ++ q ∧
    (runSmall I.B I.mode (cinit S evs s0) p).threads[t]? = some (Th.finished o) ∧
    (runSmall I.B I.mode (cinit S evs s0) p).threads[u]? = some (Th.idle pr)

/-- Environment assumption 1: ids drawn by the server (`Uuid::new_v4`) are non-nil, pairwise different, not in use
    initially, and not among the drawing request's own arguments. -/
def DistinctIds (evs : List Ev) (seen0 : List Uuid) : Prop :=
  ∀ (t : Nat) (e : Ev) (n : Uuid), evs[t]? = some e → e.drawn = some n →
    n ≠ Uuid.nil ∧ n ∉ seen0 ∧ n ∉ e.argIds ∧ ∀ (u : Nat) (e' : Ev), u ≠ t → evs[u]? = some e' → e'.drawn ≠ some n

/-- Environment assumption 2 (causality): a request names an id drawn for another request only if that request had
    been answered before this one was invoked (clients learn ids from responses only). -/
def Causal (I : Impl σ) (S : Sys) (evs : List Ev) (s0 : σ) (sch : List Nat) : Prop :=
  ∀ (t u : Nat) (e e' : Ev) (n : Uuid), evs[t]? = some e → evs[u]? = some e' → e.drawn = some n → n ∈ e'.argIds →
    Precedes I S evs s0 sch t u

/-- `DistinctIds` with the indices bounded: decidable for a concrete request list -/
theorem DistinctIds.of_bounded {evs : List Ev} {seen0 : List Uuid}
    (h : ∀ (t : Nat) (ht : t < evs.length), ∀ n ∈ evs[t].drawn, n ≠ Uuid.nil ∧ n ∉ seen0 ∧ n ∉ evs[t].argIds ∧
      ∀ (u : Nat) (hu : u < evs.length), u ≠ t → evs[u].drawn ≠ some n) : DistinctIds evs seen0 := by
  intro t e n he hd
  obtain ⟨ht, rfl⟩ := List.getElem?_eq_some_iff.mp he
  obtain ⟨h1, h2, h3, h4⟩ := h t ht n hd
  refine ⟨h1, h2, h3, fun u e' hu he' => ?_⟩
  obtain ⟨hu', rfl⟩ := List.getElem?_eq_some_iff.mp he'
  exact h4 u hu' hu

/-- causality asks nothing of a request set in which no request names an id the server draws -/
theorem Causal.of_no_drawn_arg (I : Impl σ) (S : Sys) {evs : List Ev} (s0 : σ) (sch : List Nat)
    (h : ∀ e ∈ evs, ∀ n ∈ e.drawn, ∀ e' ∈ evs, n ∉ e'.argIds) : Causal I S evs s0 sch :=
  fun _ _ _ _ n he he' hd hn => absurd hn (h _ (List.mem_of_getElem? he) n hd _ (List.mem_of_getElem? he'))

/-- The common core of the two linearizability theorems below: request sets that are all-HTTP or all-library
    (`ReqMix`), responses related by `RespRel` (equal, or – only when an HTTP AddVersion is among the requests –
    indistinguishable for an HTTP client modulo F3). -/
theorem C03_linearizable_core (I : Impl σ) (S : Sys) (hS : S.ensure = ensureClientFixed) (evs : List Ev)
    (hmix : ReqMix evs) (s0 : σ) (seen0 : List Uuid)
    (hrep : I.Rep s0) (hinv : Inv (I.abs s0)) (hseen : Seen (I.abs s0) seen0)
    (sch : List Nat) (hdist : DistinctIds evs seen0) (hcausal : Causal I S evs s0 sch)
    (hfin : ∀ x ∈ (runSmall I.B I.mode (cinit S evs s0) sch).threads, ∃ o, x = Th.finished o) :
    ∃ order : List Nat, order.Perm (List.range evs.length) ∧
      (∀ t u, Precedes I S evs s0 sch t u → Before order t u) ∧
      Fresh (evsOf evs order) seen0 ∧
      ∃ s' outs, runHC I.B I.mode S (evsOf evs order) s0 = (outs, s', true) ∧
        (∀ c, (I.abs (runSmall I.B I.mode (cinit S evs s0) sch).db).st c = (I.abs s').st c) ∧
        (I.abs (runSmall I.B I.mode (cinit S evs s0) sch).db).ids = (I.abs s').ids ∧
        Good I s' ∧ (∀ o' ∈ outs, o' ≠ Out.storageError) ∧
        ∀ (i t : Nat), order[i]? = some t →
          ∃ o' e o, outs[i]? = some o' ∧ evs[t]? = some e ∧
            (runSmall I.B I.mode (cinit S evs s0) sch).threads[t]? = some (Th.finished o) ∧ RespRel evs e o o' := by
  -- layer 1: reduction, prefix by prefix
  obtain ⟨sched', _, hred, hpre⟩ := C03_reduction_prefix I.B I.mode (cinit S evs s0) (ainit S evs s0)
    (red_init I.B s0 (evs.map (·.req S))) sch
  -- precedence, transported to the atomic run
  have hprecA : ∀ t u, Precedes I S evs s0 sch t u → ∃ p' q' x y, sched' = p' ++ q' ∧
      (runAtomic I.B I.mode (ainit S evs s0) p').threads[t]? = some x ∧ x.stage = 2 ∧
      (runAtomic I.B I.mode (ainit S evs s0) p').threads[u]? = some y ∧ y.stage = 0 := by
    rintro t u ⟨p, q, o, pr, hpq, ht, hu⟩
    obtain ⟨p', q', hs', hr⟩ := hpre p q hpq
    obtain ⟨x, hx, hxr⟩ := red_thread I.B _ _ hr t _ ht
    obtain ⟨y, hy, hyr⟩ := red_thread I.B _ _ hr u _ hu
    refine ⟨p', q', x, y, hs', hx, ?_, hy, ?_⟩
    · cases hxr; rfl
    · cases hyr; rfl
  -- layer 2: the lock-step run against the machine
  let a0 := I.abs s0
  let m0 := minit a0 evs
  have hnc : ∀ c, (a0.st c).client = none → a0.st c = {} := fun c hc => (hinv.each c).eq_empty hc
  have hri0 : RunInv I S evs a0 seen0 (ainit S evs s0) m0 := by
    refine ⟨⟨hrep, rfl, ?_, by simp [ainit], by simp [m0, minit]⟩, ⟨hinv, hseen, ?_⟩, linstate_init S evs a0 hnc, trivial⟩
    · intro t e he
      refine ⟨.idle (e.req S), .idle, ?_, ?_, .idle e⟩
      · simp [ainit, List.getElem?_map, he]
      · simp [m0, minit, List.getElem?_map, he]
    · intro t e c he _ hp
      simp [m0, minit, List.getElem?_map, he] at hp
  have hcb := fun s1 t s2 hs hri m' e hm hl he =>
    fresh_of_causal I S evs a0 seen0 (ainit S evs s0) m0 sched'
      (fun t u e e' n he he' hd hn => hprecA t u (hcausal t u e e' n he he' hd hn))
      s1 t s2 hs hri m' e hm hl he fun n => hdist t e n he
  have hriF := runinv_run I S hS evs hmix a0 seen0 sched' (ainit S evs s0) m0 hri0 hcb
  -- all threads of the machine are finished, with the responses of the interleaved run
  have hthread : ∀ (t : Nat) (e : Ev), evs[t]? = some e → ∃ o, (mrun S evs m0 sched').ph[t]? = some (Phase.finished o) ∧
      (runSmall I.B I.mode (cinit S evs s0) sch).threads[t]? = some (Th.finished o) := by
    intro t e he
    obtain ⟨x, ph, hx, hp, hr⟩ := hriF.arel.th t e he
    have htl : t < (runSmall I.B I.mode (cinit S evs s0) sch).threads.length := by
      rw [hred.len, hriF.arel.lenA]; exact (List.getElem?_eq_some_iff.mp he).1
    have hct := List.getElem?_eq_getElem htl
    obtain ⟨o, ho⟩ := hfin _ (List.getElem_mem htl)
    -- finished in the interleaved run, so finished in the atomic run (`ThRel`), so the machine's phase is `finished o` (`ThPh`)
    obtain ⟨y, hy, hyr⟩ := red_thread I.B _ _ hred t _ hct
    rw [ho] at hyr
    cases hyr
    rw [hx] at hy; cases hy
    cases hr
    exact ⟨o, hp, by rw [hct, ho]⟩
  have hmfin : allFinished (mrun S evs m0 sched') := by
    intro p hp
    obtain ⟨t, ht, hpt⟩ := List.getElem_of_mem hp
    have hte : t < evs.length := hriF.arel.lenM ▸ ht
    obtain ⟨o, ho, _⟩ := hthread t evs[t] (List.getElem?_eq_getElem hte)
    rw [List.getElem?_eq_getElem ht, hpt] at ho
    exact ⟨o, Option.some.inj ho⟩
  -- layer 3: the machine is linearizable. The one-at-a-time run then exists in three forms: `seqRun` (what
  -- `machine_linearizable` speaks of: final storage and a list of pairs (thread, answer); `hfst` says the threads are
  -- the order), `asRunH` of the requests in that order (history level: `q1` equates the storages, `q2` the answers
  -- with the second components of the pairs), and `runHC` on the backend (`hist_good`: `hs1` gives its answers as
  -- `asRunH`'s, `hs2` its final storage).
  obtain ⟨hperm, -, hst, hids, hfst, houts⟩ := machine_linearizable S evs hmix a0 hnc sched' hmfin
  have hfreshO : Fresh (evsOf evs (linOrder (mrun S evs m0 sched').log)) seen0 := hriF.fresh
  obtain ⟨q1, q2⟩ := seqRun_asRunH S evs (linOrder (mrun S evs m0 sched').log) a0
  obtain ⟨s', hs1, hs2, hgood'⟩ := hist_good I S hS _ s0 seen0 hrep hinv hseen hfreshO
  refine ⟨linOrder (mrun S evs m0 sched').log, hperm, ?_, hfreshO, s', _, hs1, ?_, ?_, hgood', asRunH_no_storageError S _ _, ?_⟩
  · -- real-time order: after some prefix `t` has been linearized and `u` has not; the log only grows
    intro t u hprec
    obtain ⟨p', q', x, y, hs', hx, hxf, hy, hyi⟩ := hprecA t u hprec
    have hriP := runinv_prefix I S hS evs hmix a0 seen0 sched' (ainit S evs s0) m0 hri0 hcb p' q' hs'
    have hul : u < evs.length := by
      rw [← hriP.arel.lenA]; exact (List.getElem?_eq_some_iff.mp hy).1
    obtain ⟨suf, hsuf⟩ := mrun_log S evs (mrun S evs m0 p') q'
    have hluF := hperm.mem_iff.2 (List.mem_range.2 hul)
    rw [hs', mrun_append, hsuf, linOrder_append] at hluF ⊢
    exact before_of_mem_append _ _ _ _ ((hriP.stage_lin hx).1 hxf)
      ((List.mem_append.1 hluF).resolve_left fun h => by have := (hriP.stage_lin hy).2 h; omega)
  · intro c
    rw [hred.db, hs2, ← q1, hriF.arel.abs]
    exact hst c
  · rw [hred.db, hs2, ← q1, hriF.arel.abs]
    exact hids
  · -- position `i` of the order is thread `t`: the `i`-th pair of `seqRun` is `(t, pr.2)` (`hfst`), `houts` relates
    -- `pr.2` to the machine's response, and `pr.2` is the `i`-th answer of `asRunH`, i.e. of `runHC` (`q2`)
    intro i t hi
    rw [← hfst, List.getElem?_map] at hi
    cases hL : (seqRun S evs (linOrder (mrun S evs m0 sched').log) a0).2[i]? with
    | none => rw [hL] at hi; cases hi
    | some pr =>
      rw [hL] at hi
      simp only [Option.map_some, Option.some.injEq] at hi
      have hmem : (t, pr.2) ∈ (seqRun S evs (linOrder (mrun S evs m0 sched').log) a0).2 := by
        rw [← hi]; exact List.mem_of_getElem? hL
      obtain ⟨e, o, he, hph, hresp⟩ := houts t pr.2 hmem
      obtain ⟨o2, ho2, hc2⟩ := hthread t e he
      cases ho2.symm.trans hph
      refine ⟨pr.2, e, o, ?_, he, hc2, hresp⟩
      rw [← q2, List.getElem?_map, hL]; rfl


/-- **C03 (partial: modulo F3; the storage lock is the environment's).** For every backend tied to the abstract
    storage, every state reachable without faults (`Rep`, `Inv`), every finite set of HTTP-level requests (any mix of
    AddVersion / GetChildVersion / AddSnapshot / GetSnapshot, new and existing clients) and every schedule at
    storage-call granularity under which all requests complete: there is an order of the requests, a permutation
    respecting real-time precedence, whose one-at-a-time execution on the same backend meets no storage error, ends
    in the same protocol-visible state, and gives every request a response that an HTTP client cannot tell from the
    one it got – except that an AddSnapshot may have been answered 200 where the one-at-a-time run says 404 (F3). -/
theorem C03_linearizable_partial (I : Impl σ) (S : Sys) (hS : S.ensure = ensureClientFixed) (evs : List Ev)
    (hhttp : ∀ e ∈ evs, e.isHttp = true) (s0 : σ) (seen0 : List Uuid)
    (hrep : I.Rep s0) (hinv : Inv (I.abs s0)) (hseen : Seen (I.abs s0) seen0)
    (sch : List Nat) (hdist : DistinctIds evs seen0) (hcausal : Causal I S evs s0 sch)
    (hfin : ∀ x ∈ (runSmall I.B I.mode (cinit S evs s0) sch).threads, ∃ o, x = Th.finished o) :
    ∃ order : List Nat, order.Perm (List.range evs.length) ∧
      (∀ t u, Precedes I S evs s0 sch t u → Before order t u) ∧
      Fresh (evsOf evs order) seen0 ∧
      ∃ s' outs, runHC I.B I.mode S (evsOf evs order) s0 = (outs, s', true) ∧
        (∀ c, (I.abs (runSmall I.B I.mode (cinit S evs s0) sch).db).st c = (I.abs s').st c) ∧
        (I.abs (runSmall I.B I.mode (cinit S evs s0) sch).db).ids = (I.abs s').ids ∧
        Good I s' ∧ (∀ o' ∈ outs, o' ≠ Out.storageError) ∧
        ∀ (i t : Nat), order[i]? = some t →
          ∃ o' e o, outs[i]? = some o' ∧ evs[t]? = some e ∧
            (runSmall I.B I.mode (cinit S evs s0) sch).threads[t]? = some (Th.finished o) ∧ sameRespF3 e o o' := by
  obtain ⟨order, h1, h2, h3, s', outs, h4, h5, h6, hg, h7, h8⟩ :=
    C03_linearizable_core I S hS evs (.inl hhttp) s0 seen0 hrep hinv hseen sch hdist hcausal hfin
  refine ⟨order, h1, h2, h3, s', outs, h4, h5, h6, hg, h7, ?_⟩
  intro i t hi
  obtain ⟨o', e, o, q1, q2, q3, q4⟩ := h8 i t hi
  exact ⟨o', e, o, q1, q2, q3, q4.weaken⟩

/-- **C03 through the library interface (strict: no relaxation).** When the requests are `Server::add_version`,
    `get_child_version`, `add_snapshot`, `get_snapshot` called directly – each one transaction, no client creation –
    every request gets *exactly* the response of the one-at-a-time execution, and the final protocol-visible state
    is that execution's. (F3 needs the HTTP AddVersion's separate creation transaction; without it there is nothing
    to relax.) -/
theorem C03_library_linearizable (I : Impl σ) (S : Sys) (hS : S.ensure = ensureClientFixed) (evs : List Ev)
    (hlib : ∀ e ∈ evs, e.isLib = true) (s0 : σ) (seen0 : List Uuid)
    (hrep : I.Rep s0) (hinv : Inv (I.abs s0)) (hseen : Seen (I.abs s0) seen0)
    (sch : List Nat) (hdist : DistinctIds evs seen0) (hcausal : Causal I S evs s0 sch)
    (hfin : ∀ x ∈ (runSmall I.B I.mode (cinit S evs s0) sch).threads, ∃ o, x = Th.finished o) :
    ∃ order : List Nat, order.Perm (List.range evs.length) ∧
      (∀ t u, Precedes I S evs s0 sch t u → Before order t u) ∧
      Fresh (evsOf evs order) seen0 ∧
      ∃ s' outs, runHC I.B I.mode S (evsOf evs order) s0 = (outs, s', true) ∧
        (∀ c, (I.abs (runSmall I.B I.mode (cinit S evs s0) sch).db).st c = (I.abs s').st c) ∧
        (I.abs (runSmall I.B I.mode (cinit S evs s0) sch).db).ids = (I.abs s').ids ∧
        Good I s' ∧ (∀ o' ∈ outs, o' ≠ Out.storageError) ∧
        ∀ (i t : Nat), order[i]? = some t →
          ∃ o, outs[i]? = some o ∧ (runSmall I.B I.mode (cinit S evs s0) sch).threads[t]? = some (Th.finished o) := by
  obtain ⟨order, h1, h2, h3, s', outs, h4, h5, h6, hg, h7, h8⟩ :=
    C03_linearizable_core I S hS evs (.inr hlib) s0 seen0 hrep hinv hseen sch hdist hcausal hfin
  refine ⟨order, h1, h2, h3, s', outs, h4, h5, h6, hg, h7, ?_⟩
  intro i t hi
  obtain ⟨o', e, o, q1, _, q3, q4⟩ := h8 i t hi
  exact ⟨o, q4.eq_of_lib hlib ▸ q1, q3⟩

/-! ## corollaries (from the empty database where `I.init` appears) -/

/-- the one-at-a-time run is an ordinary fresh sequential history from the empty database: everything proved about
    sequential histories (C01, C02, C07 – C13, C18) applies to it -/
theorem C03_from_init (I : Impl σ) (S : Sys) (hS : S.ensure = ensureClientFixed) (evs : List Ev)
    (hhttp : ∀ e ∈ evs, e.isHttp = true) (sch : List Nat) (hdist : DistinctIds evs []) (hcausal : Causal I S evs I.init sch)
    (hfin : ∀ x ∈ (runSmall I.B I.mode (cinit S evs I.init) sch).threads, ∃ o, x = Th.finished o) :
    ∃ order : List Nat, order.Perm (List.range evs.length) ∧
      (∀ t u, Precedes I S evs I.init sch t u → Before order t u) ∧
      Fresh (evsOf evs order) [] ∧
      (∀ c, (I.abs (runSmall I.B I.mode (cinit S evs I.init) sch).db).st c =
        (I.abs (runH I.B I.mode S (evsOf evs order) I.init).2).st c) ∧
      (runHC I.B I.mode S (evsOf evs order) I.init).2.2 = true ∧
      ∀ (i t : Nat), order[i]? = some t →
        ∃ o' e o, (runH I.B I.mode S (evsOf evs order) I.init).1[i]? = some o' ∧ o' ≠ Out.storageError ∧ evs[t]? = some e ∧
          (runSmall I.B I.mode (cinit S evs I.init) sch).threads[t]? = some (Th.finished o) ∧ sameRespF3 e o o' := by
  obtain ⟨order, h1, h2, h3, s', outs, h4, h5, _, _, h7, h8⟩ :=
    C03_linearizable_partial I S hS evs hhttp I.init [] I.rep_init I.inv_init (I.seen_init []) sch hdist hcausal hfin
  have hrun : runH I.B I.mode S (evsOf evs order) I.init = (outs, s') := by unfold runH; rw [h4]
  refine ⟨order, h1, h2, h3, ?_, by rw [h4], ?_⟩
  · intro c; rw [hrun]; exact h5 c
  · intro i t hi
    obtain ⟨o', e, o, q1, q2, q3, q4⟩ := h8 i t hi
    exact ⟨o', e, o, by rw [hrun]; exact q1, h7 o' (List.mem_of_getElem? q1), q2, q3, q4⟩

/-- no request is answered with a server error merely because another request overlapped it -/
theorem C03_no_overlap_5xx (I : Impl σ) (S : Sys) (hS : S.ensure = ensureClientFixed) (evs : List Ev)
    (hhttp : ∀ e ∈ evs, e.isHttp = true) (s0 : σ) (seen0 : List Uuid)
    (hrep : I.Rep s0) (hinv : Inv (I.abs s0)) (hseen : Seen (I.abs s0) seen0)
    (sch : List Nat) (hdist : DistinctIds evs seen0) (hcausal : Causal I S evs s0 sch)
    (hfin : ∀ x ∈ (runSmall I.B I.mode (cinit S evs s0) sch).threads, ∃ o, x = Th.finished o)
    (t : Nat) (ht : t < evs.length) :
    ∃ o, (runSmall I.B I.mode (cinit S evs s0) sch).threads[t]? = some (Th.finished o) ∧ (respond o).status ≠ 500 := by
  obtain ⟨order, h1, _, _, s', outs, _, _, _, _, h7, h8⟩ :=
    C03_linearizable_partial I S hS evs hhttp s0 seen0 hrep hinv hseen sch hdist hcausal hfin
  have hmem : t ∈ order := (List.Perm.mem_iff h1).mpr (List.mem_range.mpr ht)
  obtain ⟨i, hi⟩ := List.mem_iff_getElem?.mp hmem
  obtain ⟨o', e, o, q1, q2, q3, q4⟩ := h8 i t hi
  refine ⟨o, q3, ?_⟩
  have ho' := h7 o' (List.mem_of_getElem? q1)
  rcases q4 with hq | ⟨_, rfl, _⟩
  · intro h500
    have : (respond o').status = 500 := by rw [← hq]; exact h500
    exact ho' ((respond_500 o').1 this)
  · simp [respond]



/-- two overlapping AddVersion requests are never both accepted on the same parent -/
theorem C03_no_double_accept (I : Impl σ) (S : Sys) (hS : S.ensure = ensureClientFixed) (evs : List Ev)
    (hhttp : ∀ e ∈ evs, e.isHttp = true) (sch : List Nat) (hdist : DistinctIds evs []) (hcausal : Causal I S evs I.init sch)
    (hfin : ∀ x ∈ (runSmall I.B I.mode (cinit S evs I.init) sch).threads, ∃ o, x = Th.finished o)
    (t u : Nat) (htu : t ≠ u) (c p : Uuid) (seg1 seg2 : Bytes) (n1 n2 : Uuid) (now1 now2 : Int)
    (het : evs[t]? = some (.av c p seg1 n1 now1)) (heu : evs[u]? = some (.av c p seg2 n2 now2))
    (v1 v2 : Uuid) (u1 u2 : Urgency)
    (hrt : (runSmall I.B I.mode (cinit S evs I.init) sch).threads[t]? = some (Th.finished (.avOk v1 u1)))
    (hru : (runSmall I.B I.mode (cinit S evs I.init) sch).threads[u]? = some (Th.finished (.avOk v2 u2))) : False := by
  obtain ⟨order, h1, _, h3, _, _, h8⟩ := C03_from_init I S hS evs hhttp sch hdist hcausal hfin
  have hlt : ∀ x ∈ order, ∃ e, evs[x]? = some e := fun x hx =>
    ⟨_, List.getElem?_eq_getElem (List.mem_range.mp (h1.mem_iff.mp hx))⟩
  have houts := (hist_accepted I S hS (evsOf evs order) h3).2.1
  -- an accepted request is accepted in the one-at-a-time run too, under the id drawn for it
  have key : ∀ (t : Nat) (seg : Bytes) (n : Uuid) (now : Int) (v : Uuid) (ur : Urgency),
      evs[t]? = some (.av c p seg n now) →
      (runSmall I.B I.mode (cinit S evs I.init) sch).threads[t]? = some (Th.finished (.avOk v ur)) →
      n = v ∧ (⟨v, p, seg⟩ : Version) ∈ accepted c (evsOf evs order) (runH I.B I.mode S (evsOf evs order) I.init).1 := by
    intro t seg n now v ur he hr
    obtain ⟨i, hi⟩ := List.mem_iff_getElem?.mp
      (h1.mem_iff.mpr (List.mem_range.mpr (List.getElem?_eq_some_iff.mp he).1))
    obtain ⟨o', e, o, q1, _, q2, q3, q4⟩ := h8 i t hi
    rw [he] at q2; cases q2
    rw [hr] at q3; cases q3
    have ho' : o' = .avOk v ur := by
      rcases q4 with hq | ⟨hf, _, _⟩
      · have := C14_respond_injective _ _ hq
        cases o' <;> simp [expectedDecode] at this
        obtain ⟨rfl, rfl⟩ := this; rfl
      · exact absurd hf (by simp)
    subst ho'
    have hev : (evsOf evs order)[i]? = some (.av c p seg n now) := by
      rw [evsOf, getElem?_filterMap_of_some _ _ hlt, hi]; exact he
    refine ⟨?_, mem_accepted c _ _ i _ _ _ hev q1 rfl (by simp [appended])⟩
    obtain ⟨e', a', he', ho⟩ := asRunH_out S _ _ i _ (houts ▸ q1)
    rw [hev] at he'; cases he'
    exact Option.some.inj (asStep_avOk_drawn S _ a' v ur ho)
  obtain ⟨e1, m1⟩ := key t seg1 n1 now1 v1 u1 het hrt
  obtain ⟨e2, m2⟩ := key u seg2 n2 now2 v2 u2 heu hru
  have hv : v1 = v2 := by injection C01_no_shared_parent I S hS (evsOf evs order) h3 c _ _ m1 m2 rfl
  exact (hdist t _ n1 het rfl).2.2.2 u _ (Ne.symm htu) heu (congrArg some (e2.trans (hv.symm.trans e1.symm)))

/-! ## non-vacuity, and the F3 witness -/

theorem all_finished_of_resp {ρ : Type} {ths : List (Th σ ρ)} (h : ∀ r ∈ ths.map Th.resp, r.isSome = true) :
    ∀ x ∈ ths, ∃ o, x = Th.finished o := by
  intro x hx
  have := h _ (List.mem_map_of_mem hx)
  cases x <;> simp [Th.resp] at this
  exact ⟨_, rfl⟩


namespace C03Ex
def S : Sys := { cfg := ⟨14, 100⟩ }
/-- X = a first AddVersion for a never-seen client, B = an AddSnapshot, Y = another first AddVersion -/
def evs : List Ev :=
  [ .av ⟨1⟩ Uuid.nil ⟨#[1]⟩ ⟨10⟩ 0, .as ⟨1⟩ ⟨77⟩ ⟨#[7]⟩ 0, .av ⟨1⟩ Uuid.nil ⟨#[2]⟩ ⟨11⟩ 0 ]
/-- X runs its first two transactions (no such client; create) and stalls; B runs completely; only then Y is
    invoked and runs completely; X resumes -/
def sch : List Nat := List.replicate 9 0 ++ List.replicate 12 1 ++ List.replicate 20 2 ++ List.replicate 12 0

def observed : List (Option Out) := (runSmall sqlImpl.B sqlImpl.mode (cinit S evs sqlImpl.init) sch).threads.map Th.resp

/-- what the SQLite model answers under that schedule: X 409, B **200**, Y 200 -/
theorem observed_eq : observed = [some (.avConflict ⟨11⟩), some (.asDone false), some (.avOk ⟨11⟩ .high)] := by decide +kernel

example : observed = [some (.avConflict ⟨11⟩), some (.asDone false), some (.avOk ⟨11⟩ .high)] := observed_eq

/-- B had been answered before Y was invoked -/
example : Precedes sqlImpl S evs sqlImpl.init sch 1 2 :=
  ⟨List.replicate 9 0 ++ List.replicate 12 1, List.replicate 20 2 ++ List.replicate 12 0, .asDone false, _,
    List.append_assoc .., rfl, rfl⟩

theorem evs_cases (t : Nat) (e : Ev) (h : evs[t]? = some e) :
    (t = 0 ∧ e = evs[0]) ∨ (t = 1 ∧ e = evs[1]) ∨ (t = 2 ∧ e = evs[2]) :=
  getElem?_three _ _ _ t e h

/-- the hypotheses of `C03_from_init` are satisfiable: this execution meets all of them
    (causality for want of a request that names a drawn id) -/
example : (∀ e ∈ evs, e.isHttp = true) ∧ DistinctIds evs [] ∧ Causal sqlImpl S evs sqlImpl.init sch ∧
    (∀ x ∈ (runSmall sqlImpl.B sqlImpl.mode (cinit S evs sqlImpl.init) sch).threads, ∃ o, x = Th.finished o) :=
  ⟨by decide, .of_bounded (by decide), .of_no_drawn_arg _ _ _ _ (by decide),
    all_finished_of_resp (observed_eq ▸ by decide : ∀ r ∈ observed, r.isSome = true)⟩

/-- responses of the one-at-a-time run of the requests in a given order, as an HTTP client sees them -/
def seqResponses (order : List Nat) : List Response :=
  (runH sqlImpl.B sqlImpl.mode S (evsOf evs order) sqlImpl.init).1.map respond
def observedIn (order : List Nat) : List Response :=
  order.filterMap fun t => ((observed[t]?).bind id).map respond

/-- **F3, as a theorem about the model.** The three orders below are all the permutations of the three requests in
    which B (1) comes before Y (2), as real time demands. None of them gives the requests the responses they got:
    B is answered 200 only if X went first, but then X is accepted and Y conflicts. So the strict reading of C03 is
    false of this execution; `C03_linearizable_partial` shows that the relaxation `sameRespF3` is all it takes. -/
theorem C03_relaxation_needed :
    ∀ order ∈ [[0, 1, 2], [1, 0, 2], [1, 2, 0]], seqResponses order ≠ observedIn order := by
  unfold observedIn
  rw [observed_eq]  -- the interleaved run is evaluated once, in `observed_eq`
  decide +kernel

end C03Ex

/-! ## non-vacuity of the library-level theorem -/

namespace C03LibEx
open C03Ex (S)

/-- the state after the client has been created (by an earlier, completed request) -/
def s1 := (runHC sqlImpl.B sqlImpl.mode S [.create ⟨1⟩] sqlImpl.init).2.1

/-- two library AddVersions on the same parent and a GetChildVersion, all overlapping -/
def evs : List Ev :=
  [ .avLib ⟨1⟩ Uuid.nil ⟨#[1]⟩ ⟨10⟩ 0, .avLib ⟨1⟩ Uuid.nil ⟨#[2]⟩ ⟨11⟩ 0, .gcv ⟨1⟩ Uuid.nil ]
/-- round-robin at storage-call granularity -/
def sch : List Nat := (List.replicate 14 [0, 1, 2]).flatten

def observed : List (Option Out) := (runSmall sqlImpl.B sqlImpl.mode (cinit S evs s1) sch).threads.map Th.resp

/-- one accepted, the other refused with the accepted id, the reader sees the accepted version -/
theorem observed_eq :
    observed = [some (.avOk ⟨10⟩ .high), some (.avConflict ⟨10⟩), some (.found ⟨⟨10⟩, Uuid.nil, ⟨#[1]⟩⟩)] := by decide +kernel

example : observed = [some (.avOk ⟨10⟩ .high), some (.avConflict ⟨10⟩), some (.found ⟨⟨10⟩, Uuid.nil, ⟨#[1]⟩⟩)] := observed_eq

theorem evs_cases (t : Nat) (e : Ev) (h : evs[t]? = some e) :
    (t = 0 ∧ e = evs[0]) ∨ (t = 1 ∧ e = evs[1]) ∨ (t = 2 ∧ e = evs[2]) :=
  getElem?_three _ _ _ t e h

theorem s1_good : sqlImpl.Rep s1 ∧ Inv (sqlImpl.abs s1) ∧ Seen (sqlImpl.abs s1) [] := by
  obtain ⟨s', h1, h2, hg⟩ := hist_init sqlImpl S rfl [.create ⟨1⟩] (by simp [Fresh, FreshEv, Ev.drawn])
  have hs : s' = s1 := by unfold s1; rw [h1]
  subst hs
  refine ⟨hg.rep, hg.inv, ?_⟩
  rw [h2]
  refine ⟨?_, ?_⟩
  · intro i hi; simp [asRunH, asStep, Ev.client, cstep, addedId] at hi
  · intro c hc
    exfalso; apply hc
    simp only [asRunH, asStep, Ev.client, cstep]
    by_cases h : c = ⟨1⟩
    · subst h; simp [upd_same, cCreate]
    · simp [upd_other _ _ _ _ h]

/-- the hypotheses of `C03_library_linearizable` are satisfiable: this execution meets all of them
    (causality, again, for want of a request that names a drawn id) -/
example : (∀ e ∈ evs, e.isLib = true) ∧ sqlImpl.Rep s1 ∧ Inv (sqlImpl.abs s1) ∧ Seen (sqlImpl.abs s1) [] ∧
    DistinctIds evs [] ∧ Causal sqlImpl S evs s1 sch ∧
    (∀ x ∈ (runSmall sqlImpl.B sqlImpl.mode (cinit S evs s1) sch).threads, ∃ o, x = Th.finished o) :=
  ⟨by decide, s1_good.1, s1_good.2.1, s1_good.2.2, .of_bounded (by decide), .of_no_drawn_arg _ _ _ _ (by decide),
    all_finished_of_resp (observed_eq ▸ by decide : ∀ r ∈ observed, r.isSome = true)⟩

end C03LibEx

/-! ## the two entries must not be mixed -/

namespace C03MixEx
open C03Ex (S)

/-- X = an HTTP AddVersion for a never-seen client, L = a library AddVersion (no client creation) for the same client -/
def evs : List Ev := [ .av ⟨1⟩ Uuid.nil ⟨#[1]⟩ ⟨10⟩ 0, .avLib ⟨1⟩ Uuid.nil ⟨#[2]⟩ ⟨11⟩ 0 ]
/-- X runs its first two transactions (no such client; create) and stalls; L runs completely; X resumes -/
def sch : List Nat := List.replicate 9 0 ++ List.replicate 12 1 ++ List.replicate 12 0

def observed : List (Option Out) := (runSmall sqlImpl.B sqlImpl.mode (cinit S evs sqlImpl.init) sch).threads.map Th.resp

/-- L is accepted on the empty record X's creation transaction left behind; X then conflicts with it -/
example : observed = [some (.avConflict ⟨11⟩), some (.avOk ⟨11⟩ .high)] := by decide +kernel

def seqOuts (order : List Nat) : List (Nat × Out) :=
  order.zip (runH sqlImpl.B sqlImpl.mode S (evsOf evs order) sqlImpl.init).1

/-- **Why `ReqMix` excludes request sets that mix the two entries.** In no one-at-a-time order is the library AddVersion
    accepted: alone it meets no client (`noSuchClient`), after X it conflicts with X's version. So this execution of the
    model is not linearizable, in any sense of "same response": the hypothesis "all-HTTP or all-library" of
    `C03_linearizable_core` cannot be dropped. (The shipped server only ever runs the HTTP entry.) -/
theorem C03_mix_not_linearizable :
    ∀ order ∈ [[0, 1], [1, 0]], (1, Out.avOk ⟨11⟩ .high) ∉ seqOuts order := by decide +kernel

end C03MixEx

end Tcs
