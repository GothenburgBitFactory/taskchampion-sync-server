import Tcs.Props.C02
namespace Tcs

/-! # C08 – GetChildVersion answers found / not-found / gone consistently with AddVersion -/

/-- would an AddVersion with parent `p` be accepted in this record? (the library-level rule; the HTTP
    handler first creates a never-seen client, which then accepts) -/
def wouldAccept (x : CSt) (p : Uuid) : Bool := latestOf x = Uuid.nil || p = latestOf x

/-- Specification level, for EVERY record (reachable or not): if a stored version has parent `p` the
    first such version is returned; otherwise not-found exactly when AddVersion(p) would be accepted and
    gone exactly when it would be rejected; a never-seen client gets no-such-client (HTTP: 404). -/
theorem C08_decision (x : CSt) (p : Uuid) :
    (∀ v, x.versions.find? (·.parent = p) = some v → x.client ≠ none → cGetChild x p = .found v) ∧
    (x.versions.find? (·.parent = p) = none → x.client ≠ none →
        (cGetChild x p = .notFound ↔ wouldAccept x p = true) ∧ (cGetChild x p = .gone ↔ wouldAccept x p = false) ∧
        (cGetChild x p = .notFound ∨ cGetChild x p = .gone)) ∧
    (x.client = none → cGetChild x p = .noSuchClient) := by
  rcases x with ⟨_ | cl, d, vs⟩
  · simp [cGetChild]
  · refine ⟨?_, ?_, ?_⟩
    · intro v hv _; simp [cGetChild, hv]
    · intro hv _
      simp only [cGetChild, hv, wouldAccept, latestOf]
      by_cases h1 : cl.latest = p
      · subst h1; simp
      · have h1' : ¬ p = cl.latest := fun h => h1 h.symm
        by_cases h2 : cl.latest = Uuid.nil <;> simp [h1, h1', h2]
    · intro h; simp at h

/-- the AddVersion side of the equivalence is the real acceptance rule (C02) -/
theorem C08_matches_add_version (S : Sys) (x : CSt) (hc : x.client ≠ none) (c p : Uuid) (seg : Bytes) (newId : Uuid) (now : Int) :
    (wouldAccept x p = true ↔ ∃ u, (cstep S (.av c p seg newId now) x).1 = .avOk newId u) ∧
    (wouldAccept x p = false ↔ ∃ l, (cstep S (.av c p seg newId now) x).1 = .avConflict l) := by
  have h := C02_spec S x c p seg newId now
  simp only [wouldAccept, Bool.or_eq_true, decide_eq_true_eq]
  by_cases hh : latestOf x = Uuid.nil ∨ p = latestOf x
  · simp only [hh, ↓reduceIte] at h
    constructor
    · simp [hh, h.1]
    · simp only [h.1, reduceCtorEq, exists_false, iff_false]
      rcases hh with hh | hh <;> simp [hh]
  · simp only [hh, ↓reduceIte] at h
    constructor
    · simp [hh, h.1]
    · simp [h.1]
      simpa [not_or] using hh

/-- in reachable records a found child is THE child: exactly the accepted version whose parent is `p` -/
theorem C08_found_is_the_child (x : CSt) (hx : CInv x) (v : Version) (hv : v ∈ x.versions) (hc : x.client ≠ none) :
    cGetChild x v.parent = .found v :=
  (C08_decision x v.parent).1 v (find_parent_of_mem _ _ hx.wf v hv) hc

/-- at the latest version the answer is not-found (a replica that is up to date is told so) -/
theorem C08_latest_not_found (x : CSt) (hx : CInv x) (cl : Client) (hc : x.client = some cl) :
    cGetChild x cl.latest = .notFound := by
  have hf := find_parent_last _ _ hx.wf
  rw [← hx.latest cl hc] at hf
  unfold cGetChild
  rw [hc]
  simp only [hf]
  simp

/-- on every backend, from every reachable state: GetChildVersion answers as the specification says, and changes nothing -/
theorem C08_on_backend {σ} (I : Impl σ) (S : Sys) (hS : S.ensure = ensureClientFixed) (s : σ) (hg : Good I s) (c p : Uuid) :
    ∃ s', ((Ev.gcv c p).req S).runC I.B I.mode s = (cGetChild ((I.abs s).st c) p, s', true) ∧ I.abs s' = I.abs s := by
  obtain ⟨s', h1, h2, _⟩ := req_good_nodraw I S hS (.gcv c p) s hg rfl
  refine ⟨s', by rwa [asStep_out S _ _ c rfl] at h1, ?_⟩
  rw [h2]
  exact asStep_unchanged S _ _ c rfl rfl rfl

example : let x : CSt := { client := some ⟨⟨7⟩, none⟩, versions := [⟨⟨7⟩, Uuid.nil, ByteArray.empty⟩] }
    cGetChild x Uuid.nil = .found ⟨⟨7⟩, Uuid.nil, ByteArray.empty⟩ ∧ cGetChild x ⟨7⟩ = .notFound ∧ cGetChild x ⟨5⟩ = .gone := by decide +kernel

end Tcs
