import Tcs.Proofs.HttpProofs
namespace Tcs

/-! # C14 – HTTP responses encode protocol outcomes exactly -/

theorem urgency_header_roundtrip (u : Urgency) : urgencyOfHeader (urgencyHeader u) = some u := by
  cases u <;> rw [urgencyHeader, urgencyOfHeader]

/-- the encoding is faithful: decoding the response (status + the three protocol headers + content type + body) gives back the outcome -/
theorem C14_decode_respond (o : Out) : decode (addCC (respond o)) = expectedDecode o := by
  cases o with
  | avOk v u => simp only [decode, addCC, respond, expectedDecode, urgency_header_roundtrip]
  | found | snap => simp only [decode, addCC, respond, expectedDecode, ↓reduceIte]
  | _ => rfl

/-- two outcomes a client must tell apart are never encoded alike -/
theorem C14_respond_injective (o o' : Out) (h : respond o = respond o') : expectedDecode o = expectedDecode o' := by
  rw [← C14_decode_respond, ← C14_decode_respond, h]

/-- each handler answers with the encoding of the protocol outcome of the same request on the same state, for every backend -/
theorem C14_handler_uses_respond {σ} (B : Backend σ) (mode : TxnMode) (h : HttpCfg) (r : Request) (e : Ev) (hp : parseReq h r = .ev e) (s : σ) :
    ((serve h r).run B mode s).1 = addCC (respond ((e.req (sysOf h)).run B mode s).1) ∧
    ((serve h r).run B mode s).2 = ((e.req (sysOf h)).run B mode s).2 := by
  rw [serve_factor, hp]
  simp only [map_run, and_self]

/-- the status/header table of the property, outcome by outcome -/
theorem C14_table :
    (∀ v u, (respond (.avOk v u)).status = 200 ∧ (respond (.avOk v u)).vid = some v ∧ (respond (.avOk v u)).pvid = none ∧
        ((respond (.avOk v u)).snapreq = none ↔ u = .none) ∧ ((respond (.avOk v u)).snapreq = some "urgency=low" ↔ u = .low) ∧ ((respond (.avOk v u)).snapreq = some "urgency=high" ↔ u = .high)) ∧
    (∀ l, (respond (.avConflict l)).status = 409 ∧ (respond (.avConflict l)).pvid = some l ∧ (respond (.avConflict l)).vid = none) ∧
    (∀ v, (respond (.found v)).status = 200 ∧ (respond (.found v)).vid = some v.id ∧ (respond (.found v)).pvid = some v.parent ∧ (respond (.found v)).ctype = some HS_CT ∧ (respond (.found v)).body = v.seg) ∧
    (respond .notFound).status = 404 ∧ (respond .gone).status = 410 ∧ (respond .noSuchClient).status = 404 ∧
    (∀ b, (respond (.asDone b)).status = 200) ∧
    (∀ v d, (respond (.snap v d)).status = 200 ∧ (respond (.snap v d)).vid = some v ∧ (respond (.snap v d)).ctype = some SNAP_CT ∧ (respond (.snap v d)).body = d) ∧
    (respond .noSnap).status = 404 := by
  refine ⟨fun v u => ⟨rfl, rfl, rfl, ?_, ?_, ?_⟩, fun l => ⟨rfl, rfl, rfl⟩, fun v => ⟨rfl, rfl, rfl, rfl, rfl⟩, rfl, rfl, rfl,
    fun b => rfl, fun v d => ⟨rfl, rfl, rfl, rfl⟩, rfl⟩ <;> cases u <;> simp [respond, urgencyHeader]

end Tcs
