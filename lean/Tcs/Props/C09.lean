import Tcs.Proofs.Impl
namespace Tcs

/-! # C09 – clients are isolated from one another

    Two-run non-interference: what a client is answered, and what is stored for it, depends only on
    that client's own requests — not on the requests of other clients, not even when it quotes
    version ids that belong to other clients. -/

def isOf (c : Uuid) (e : Ev) : Bool := e.client = some c

theorem isOf_true (c : Uuid) (e : Ev) : isOf c e = true ↔ e.client = some c := by
  simp [isOf]

/-- frame: an event of another client (or a reopen) leaves `c`'s record untouched -/
theorem C09_frame (S : Sys) (e : Ev) (a : AS) (c : Uuid) (h : e.client ≠ some c) :
    (asStep S e a).2.st c = a.st c := by
  rw [asStep_st, if_neg h]

/-- an event of `c` reads and writes only `c`'s record: same record ⇒ same answer and same new record -/
theorem C09_own_record_only (S : Sys) (e : Ev) (a a' : AS) (c : Uuid) (hc : e.client = some c)
    (h : a.st c = a'.st c) :
    (asStep S e a).1 = (asStep S e a').1 ∧ (asStep S e a).2.st c = (asStep S e a').2.st c := by
  constructor
  · simp only [asStep, hc, h]
  · rw [asStep_same S e a c hc, asStep_same S e a' c hc, h]

/-- abstract level: the answers `c` receives in a history equal, position by position, the answers it
    receives when only its own requests are run (whatever ids those requests quote), and its record
    ends up the same -/
theorem asRunH_projection (S : Sys) (h : List Ev) (a a' : AS) (c : Uuid) (hst : a.st c = a'.st c) :
    selectOuts (isOf c) h (asRunH S h a).1 = (asRunH S (h.filter (isOf c)) a').1 ∧
    (asRunH S h a).2.st c = (asRunH S (h.filter (isOf c)) a').2.st c :=
  asRunH_filter S (isOf c) (fun a a' => a.st c = a'.st c)
    (fun e a a' hk hR => C09_own_record_only S e a a' c ((isOf_true c e).1 hk) hR)
    (fun e a a' hk hR => (C09_frame S e a c (fun hc => by simp [isOf, hc] at hk)).trans hR) h a a' hst

/-- C09 (two-run non-interference), on every backend: run `h`; run the projection of `h` onto client `c`
    alone on a fresh database; `c` receives the same responses, position by position — even when its
    requests quote version ids that belong to other clients (the events carry the drawn ids, so both
    runs draw the same ids) -/
theorem C09_noninterference {σ} (I : Impl σ) (S : Sys) (hS : S.ensure = ensureClientFixed) (h : List Ev)
    (hf : Fresh h []) (c : Uuid) :
    selectOuts (isOf c) h (runH I.B I.mode S h I.init).1 = (runH I.B I.mode S (h.filter (isOf c)) I.init).1 ∧
    (I.abs (runH I.B I.mode S h I.init).2).st c =
      (I.abs (runH I.B I.mode S (h.filter (isOf c)) I.init).2).st c := by
  obtain ⟨h1, h2⟩ := runH_init I S hS h hf
  obtain ⟨f1, f2⟩ := runH_init I S hS (h.filter (isOf c)) (fresh_filter (isOf c) h [] [] (fun _ hi => hi) hf)
  rw [h1, h2, f1, f2]
  exact asRunH_projection S h {} {} c rfl

theorem C09_noninterference_sql (S : Sys) (hS : S.ensure = ensureClientFixed) (h : List Ev) (hf : Fresh h []) (c : Uuid) :
    selectOuts (isOf c) h (runH SqlB .snapshotCommit S h {}).1 = (runH SqlB .snapshotCommit S (h.filter (isOf c)) {}).1 ∧
    (Sql.abs (runH SqlB .snapshotCommit S h {}).2).st c =
      (Sql.abs (runH SqlB .snapshotCommit S (h.filter (isOf c)) {}).2).st c :=
  C09_noninterference sqlImpl S hS h hf c

theorem C09_noninterference_mem (S : Sys) (hS : S.ensure = ensureClientFixed) (h : List Ev) (hf : Fresh h []) (c : Uuid) :
    selectOuts (isOf c) h (runH MemB .inPlace S h {}).1 = (runH MemB .inPlace S (h.filter (isOf c)) {}).1 ∧
    (Mem.abs (runH MemB .inPlace S h {}).2).st c =
      (Mem.abs (runH MemB .inPlace S (h.filter (isOf c)) {}).2).st c :=
  C09_noninterference memImpl S hS h hf c

/-- the other direction of isolation: requests of other clients never change `c`'s stored record -/
theorem C09_others_cannot_change {σ} (I : Impl σ) (S : Sys) (hS : S.ensure = ensureClientFixed) (h : List Ev)
    (hf : Fresh h []) (c : Uuid) (e : Ev) (he : e.client ≠ some c) (hfe : Fresh (h ++ [e]) []) :
    (I.abs (runH I.B I.mode S (h ++ [e]) I.init).2).st c = (I.abs (runH I.B I.mode S h I.init).2).st c := by
  rw [(runH_init I S hS h hf).2, (runH_init I S hS (h ++ [e]) hfe).2, congrArg Prod.snd (asRunH_append S h [e] {})]
  exact C09_frame S e (asRunH S h {}).2 c he

/-! ## Non-vacuity: a concrete two-client history in which client A quotes client B's version id -/

namespace C09Ex
def S : Sys := { cfg := ⟨14, 100⟩ }
def A : Uuid := ⟨1⟩
def B : Uuid := ⟨2⟩
/-- B stores version 20; A stores version 10, then asks for the child of 20 (B's id), tries to append onto 20,
    and offers a snapshot at 20; B reads in between; the database is reopened; A reads its own chain -/
def h : List Ev :=
  [ .av B Uuid.nil ByteArray.empty ⟨20⟩ 0, .av A Uuid.nil ByteArray.empty ⟨10⟩ 0, .gcv A ⟨20⟩,
    .av A ⟨20⟩ ByteArray.empty ⟨11⟩ 0, .gcv B Uuid.nil, .as A ⟨20⟩ ByteArray.empty 0, .reopen, .gcv A Uuid.nil ]
def expected : List Out :=
  [.avOk ⟨10⟩ .high, .gone, .avConflict ⟨10⟩, .asDone false, .found ⟨⟨10⟩, Uuid.nil, ByteArray.empty⟩]

/-- the hypothesis of `C09_noninterference` is satisfiable by this history -/
theorem h_fresh : Fresh h [] := by
  simp [h, Fresh, FreshEv, seenAfter, Ev.drawn, Ev.argIds, Uuid.nil, A, B]

/-- specification level: A's answers in the full run and in its solo run, evaluated -/
example : selectOuts (isOf A) h (asRunH S h {}).1 = expected ∧ (asRunH S (h.filter (isOf A)) {}).1 = expected ∧
    (h.filter (isOf A)).length = 5 ∧ (asRunH S h {}).1.length = 8 := by decide +kernel

/-- both shipped backends, evaluated: quoting B's id 20 gets A `gone` / a conflict / a refused snapshot,
    exactly as if B did not exist -/
example : selectOuts (isOf A) h (runH MemB .inPlace S h {}).1 = expected ∧
    (runH MemB .inPlace S (h.filter (isOf A)) {}).1 = expected := by decide +kernel
example : selectOuts (isOf A) h (runH SqlB .snapshotCommit S h {}).1 = expected ∧
    (runH SqlB .snapshotCommit S (h.filter (isOf A)) {}).1 = expected := by decide +kernel

/-- the theorem instantiated on the concrete history -/
example : selectOuts (isOf A) h (runH SqlB .snapshotCommit S h {}).1 = (runH SqlB .snapshotCommit S (h.filter (isOf A)) {}).1 :=
  (C09_noninterference_sql S rfl h h_fresh A).1
end C09Ex

end Tcs
