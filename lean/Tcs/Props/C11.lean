import Tcs.Props.C10
namespace Tcs

/-! # C11 – GetSnapshot returns the most recently accepted snapshot, a usable base -/

/-- the last AddSnapshot of client `c` in the history that the server accepted:
    (version id, bytes) of that very upload -/
def lastSnap (c : Uuid) : List Ev → List Out → Option (Uuid × Bytes) → Option (Uuid × Bytes)
  | (.as c' v d _) :: es, o :: os, acc => lastSnap c es os (if c' = c ∧ o = .asDone true then some (v, d) else acc)
  | _ :: es, _ :: os, acc => lastSnap c es os acc
  | _, _, acc => acc

/-- what the record says GetSnapshot returns -/
def snapPair (x : CSt) : Option (Uuid × Bytes) :=
  match x.client with
  | none => none
  | some c => match c.snap, x.data with
    | some s, some d => some (s.vid, d)
    | _, _ => none

/-- the accumulator update `lastSnap` performs for one (event, answer) pair -/
def snapUpd (c : Uuid) (e : Ev) (o : Out) (acc : Option (Uuid × Bytes)) : Option (Uuid × Bytes) :=
  match e with
  | .as c' v d _ => if c' = c ∧ o = .asDone true then some (v, d) else acc
  | _ => acc

theorem lastSnap_cons (c : Uuid) (e : Ev) (es : List Ev) (o : Out) (os : List Out) (acc : Option (Uuid × Bytes)) :
    lastSnap c (e :: es) (o :: os) acc = lastSnap c es os (snapUpd c e o acc) := by
  cases e <;> rfl

theorem snapPair_cCreate (x : CSt) : snapPair (cCreate x) = snapPair x := by
  rcases x with ⟨_ | cl, d, vs⟩ <;> simp [cCreate, snapPair]

theorem snapPair_cAddVersion (cfg : Config) (x : CSt) (p : Uuid) (seg : Bytes) (newId : Uuid) (now : Int) :
    snapPair (cAddVersion cfg x p seg newId now).2 = snapPair x := by
  rcases cAddVersion_cases cfg x p seg newId now with ⟨c, hc, h⟩ | ⟨h1, -⟩
  · rw [h]
    simp only [snapPair, hc]
    cases c.snap <;> cases x.data <;> rfl
  · rw [h1]

theorem snapPair_cAddSnapshot (P : Params) (x : CSt) (v : Uuid) (data : Bytes) (now : Int) :
    snapPair (cAddSnapshot P x v data now).2 =
      if (cAddSnapshot P x v data now).1 = .asDone true then some (v, data) else snapPair x := by
  rcases cAddSnapshot_cases P x v data now with ⟨c, -, h⟩ | ⟨h1, h2⟩
  · rw [h]; rfl
  · rw [h1, if_neg h2]

theorem snapPair_cstep (S : Sys) (e : Ev) (x : CSt) (c : Uuid) (hc : e.client = some c) :
    snapPair (cstep S e x).2 = snapUpd c e (cstep S e x).1 (snapPair x) := by
  cases e with
  | av c' p seg newId now => simp only [cstep, snapUpd, snapPair_cAddVersion, snapPair_cCreate]
  | avLib c' p seg newId now => simp only [cstep, snapUpd, snapPair_cAddVersion]
  | create c' => simp only [cstep, snapUpd, snapPair_cCreate]
  | «as» c' v d now =>
    simp only [Ev.client, Option.some.injEq] at hc
    simp only [cstep, snapUpd, snapPair_cAddSnapshot, hc, true_and]
  | gcv | gs | reopen => rfl

theorem snapUpd_other (c : Uuid) (e : Ev) (o : Out) (acc : Option (Uuid × Bytes)) (h : e.client ≠ some c) :
    snapUpd c e o acc = acc := by
  cases e <;> first | rfl | exact if_neg fun hh => h (by rw [hh.1]; rfl)

/-- the invariant-free core of `asRunH_lastSnap` -/
theorem asRunH_lastSnap' (S : Sys) (h : List Ev) (a : AS) (c : Uuid) :
    snapPair ((asRunH S h a).2.st c) = lastSnap c h (asRunH S h a).1 (snapPair (a.st c)) :=
  asRunH_track S c snapPair (snapUpd c) (lastSnap c) (fun _ => rfl) (lastSnap_cons c)
    (fun e x hc => snapPair_cstep S e x c hc) (snapUpd_other c) h a

theorem cGetSnapshot_eq (x : CSt) :
    cGetSnapshot x = match snapPair x with
      | some (v, d) => Out.snap v d
      | none => if x.client = none then Out.noSuchClient else Out.noSnap := by
  rcases x with ⟨_ | ⟨l, _ | sn⟩, _ | d, vs⟩ <;> simp [cGetSnapshot, snapPair]

/-- abstract level: after any history the record's (snapshot version, data) pair is the one of the last accepted
    upload (id and bytes from the SAME event), or what it was before if none was accepted -/
theorem asRunH_lastSnap (S : Sys) (h : List Ev) (a : AS) (c : Uuid) (_hinv : Inv a) (seen : List Uuid)
    (_hseen : Seen a seen) (_hf : Fresh h seen) :
    snapPair ((asRunH S h a).2.st c) = lastSnap c h (asRunH S h a).1 (snapPair (a.st c)) :=
  asRunH_lastSnap' S h a c

/-- C11 (a): on every backend, after any fresh history from the empty database, GetSnapshot returns exactly
    that pair, or not-found -/
theorem C11_latest_snapshot {σ} (I : Impl σ) (S : Sys) (hS : S.ensure = ensureClientFixed) (h : List Ev)
    (hf : Fresh h []) (c : Uuid) :
    (((Ev.gs c).req S).run I.B I.mode (runH I.B I.mode S h I.init).2).1 =
      match lastSnap c h (runH I.B I.mode S h I.init).1 none with
      | some (v, d) => Out.snap v d
      | none => if ((I.abs (runH I.B I.mode S h I.init).2).st c).client = none then Out.noSuchClient else Out.noSnap := by
  obtain ⟨h1, h2⟩ := runH_init I S hS h hf
  have hl : snapPair ((asRunH S h {}).2.st c) = lastSnap c h (asRunH S h {}).1 none := asRunH_lastSnap' S h {} c
  rw [out_good I S hS (.gs c) _ (runH_good I S hS h hf) rfl, h1, ← hl, ← h2]
  exact cGetSnapshot_eq _

/-- C11 (b): the snapshot version is a usable base: for every record satisfying the invariant, walking child
    versions from the snapshot version yields only `found` answers — exactly the versions after it, in order —
    and then not-found at the latest; never gone -/
theorem C11_usable_base (x : CSt) (hx : CInv x) (v : Uuid) (h : curSnap x = some v) :
    ∃ pre suf, x.versions = pre ++ suf ∧ v = lastId (baseOf x.versions) pre ∧
      walkOuts x (suf.length + 1) v = suf.map Out.found ++ [Out.notFound] := by
  obtain ⟨c, _, hc, _, _⟩ := curSnap_eq_some x v h
  have hm := (mem_anc x v).1 (C10_on_chain x hx v h).1
  obtain ⟨pre, suf, h1, h2⟩ := split_at_id _ _ v hm
  refine ⟨pre, suf, h1, h2, ?_⟩
  rw [h2]
  exact walkOuts_from x hx (by simp [hc]) pre suf h1

/-- a history: two versions, an accepted snapshot for the first, a declined one (unknown version), an accepted
    one for the second by ANOTHER upload; `lastSnap` picks the last accepted (id, bytes) pair -/
example :
    let d1 : Bytes := ⟨#[1]⟩
    let d2 : Bytes := ⟨#[2]⟩
    let d3 : Bytes := ⟨#[3]⟩
    let h : List Ev := [.av ⟨1⟩ Uuid.nil .empty ⟨10⟩ 0, .av ⟨1⟩ ⟨10⟩ .empty ⟨11⟩ 0, .as ⟨1⟩ ⟨10⟩ d1 0,
      .as ⟨1⟩ ⟨99⟩ d2 0, .as ⟨2⟩ ⟨11⟩ d2 0, .as ⟨1⟩ ⟨11⟩ d3 0, .as ⟨1⟩ ⟨10⟩ d1 0]
    let r := asRunH { cfg := ⟨14, 100⟩ } h {}
    lastSnap ⟨1⟩ h r.1 none = some (⟨11⟩, d3) ∧ cGetSnapshot (r.2.st ⟨1⟩) = .snap ⟨11⟩ d3 ∧
    lastSnap ⟨2⟩ h r.1 none = none ∧ cGetSnapshot (r.2.st ⟨2⟩) = .noSuchClient ∧
    r.1.drop 2 = [.asDone true, .asDone false, .noSuchClient, .asDone true, .asDone false] := by
  decide +kernel

/-- walking from the snapshot version 5 of the seven-version chain: 6, 7, then not-found -/
example : let x : CSt := { client := some ⟨⟨7⟩, some ⟨⟨5⟩, 0, 2⟩⟩, data := some .empty, versions := c10Chain }
    walkOuts x 3 ⟨5⟩ = [.found ⟨⟨6⟩, ⟨5⟩, .empty⟩, .found ⟨⟨7⟩, ⟨6⟩, .empty⟩, .notFound] ∧
    walkOuts x 8 Uuid.nil = c10Chain.map Out.found ++ [.notFound] := by
  decide +kernel

end Tcs
