import Tcs.Props.C10  -- `C10_off_chain_declined_any_window` is registered for C18 too and audited through this module
import Tcs.Proofs.NoWrite
namespace Tcs

/-! # C18 – reads and rejected writes leave stored state untouched -/

/-- the non-mutating outcomes: every read; a conflicting AddVersion; a declined AddSnapshot; any
    request answered no-such-client; a reopen -/
def nonMutating (e : Ev) (o : Out) : Bool :=
  match e, o with
  | .gcv .., _ => true
  | .gs .., _ => true
  | .reopen, _ => true
  | .av .., .avConflict _ => true
  | .avLib .., .avConflict _ => true
  | .avLib .., .noSuchClient => true
  | .as .., .asDone false => true
  | .as .., .noSuchClient => true
  | _, _ => false

/-- specification level, for EVERY record: a non-mutating outcome returns the record unchanged -/
theorem C18_spec (S : Sys) (e : Ev) (x : CSt) (h : nonMutating e (cstep S e x).1 = true) : (cstep S e x).2 = x := by
  cases e with
  | av c p seg newId now =>
    rcases cAddVersion_cases S.cfg (cCreate x) p seg newId now with ⟨cl, -, hv⟩ | ⟨h1, h2⟩
    · simp only [cstep, hv] at h; cases h
    · simp only [cstep]
      rw [h1]
      -- no `avOk` answer: the client existed (a client created on the spot accepts)
      unfold cCreate
      cases hc : x.client with
      | some cl => rfl
      | none => exact absurd (by simp [cCreate, hc, cAddVersion]) (h2 newId (urgency S.cfg now none))
  | avLib c p seg newId now =>
    rcases cAddVersion_cases S.cfg x p seg newId now with ⟨cl, -, hv⟩ | ⟨h1, -⟩
    · simp only [cstep, hv] at h; cases h
    · exact h1
  | create c => cases h
  | «as» c v dd now =>
    rcases cAddSnapshot_cases S.params x v dd now with ⟨cl, -, hv⟩ | ⟨h1, -⟩
    · simp only [cstep, hv] at h; cases h
    · exact h1
  | gcv | gs | reopen => rfl

/-- a non-mutating outcome adds no version id to the global id set -/
theorem C18_no_id (e : Ev) (o : Out) (h : nonMutating e o = true) : addedId e o = [] := by
  cases e <;> first | rfl | (cases o <;> first | rfl | cases h)

/-- On every backend, from every reachable state: after a non-mutating outcome the complete
    protocol-visible state — every client's versions, latest pointer, snapshot, snapshot bookkeeping,
    and the set of stored ids — is exactly what it was. -/
theorem C18_noop {σ} (I : Impl σ) (S : Sys) (hS : S.ensure = ensureClientFixed) (s : σ) (hg : Good I s) (e : Ev)
    (hf : ∀ n, e.drawn = some n → n ∉ (I.abs s).ids)
    (h : nonMutating e (asStep S e (I.abs s)).1 = true) :
    ∃ s', (e.req S).runC I.B I.mode s = ((asStep S e (I.abs s)).1, s', true) ∧ I.abs s' = I.abs s := by
  obtain ⟨s', h1, h2, _⟩ := req_good I S hS e s hg hf
  refine ⟨s', h1, ?_⟩
  rw [h2]
  cases hc : e.client with
  | none => exact asStep_none S e _ hc
  | some c =>
    rw [asStep_out S e _ c hc] at h
    exact asStep_unchanged S e _ c hc (C18_spec S e _ h) (C18_no_id e _ h)

/-- **Table level.** On any backend whose read calls are pure (both shipped backends: `readsPure_sql`,
    `readsPure_mem`), from ANY state – no invariant, no reachability –, a single-transaction request that completes
    with a non-mutating outcome leaves the backend's concrete state (the two SQL tables row for row, the four hash
    maps entry for entry) exactly as it was: such an outcome is only ever returned on a path that made no write call
    and no commit. (The HTTP AddVersion answers a conflict from its first transaction, which is the `avLib` case.) -/
theorem C18_tables {σ} (B : Backend σ) (hB : ReadsPure B) (mode : TxnMode) (S : Sys) (e : Ev) (s : σ)
    (he : match e with | .gcv .. | .gs .. | .as .. | .avLib .. => True | _ => False)
    (hok : ((e.req S).runC B mode s).2.2 = true)
    (h : nonMutating e ((e.req S).runC B mode s).1 = true) :
    ((e.req S).runC B mode s).2.1 = s := by
  have key : ∀ {α : Type} (c : Uuid) (body : TxnM (Except SrvErr α)) (f : α → Out) (P : Except SrvErr α → Prop),
      ReadOnlyUnless P body → ((one c body f).runC B mode s).2.2 = true →
      (∀ x, P x → nonMutating e (outOf f x) = false) →
      nonMutating e ((one c body f).runC B mode s).1 = true → ((one c body f).runC B mode s).2.1 = s := by
    intro α c body f P hro hflag hP hnm
    rw [runC_one] at hflag hnm ⊢
    obtain ⟨x, hx⟩ := Option.isSome_iff_exists.1 hflag
    rw [hx] at hnm
    exact run_readOnly B hB mode c P body hro s _ x (Prod.ext hx rfl) fun hp => by
      rw [hP x hp] at hnm
      cases hnm
  cases e with
  | gcv c p => exact key c _ gcvOut _ (rou_getChildVersion p) hok (fun x hx => absurd hx id) h
  | gs c => exact key c _ gsOut _ rou_getSnapshot hok (fun x hx => absurd hx id) h
  | «as» c v d now =>
    refine key c _ .asDone _ (rou_addSnapshot S.params v d now) hok ?_ h
    intro x hx; subst hx; rfl
  | avLib c p seg n now =>
    refine key c _ avOut _ (rou_addVersion S.cfg p seg n now) hok ?_ h
    rintro x ⟨v, u, rfl⟩; rfl
  | av | create | reopen => exact absurd he id

theorem C18_tables_sql (S : Sys) (e : Ev) (s : Sql)
    (he : match e with | .gcv .. | .gs .. | .as .. | .avLib .. => True | _ => False)
    (hok : ((e.req S).runC SqlB .snapshotCommit s).2.2 = true)
    (h : nonMutating e ((e.req S).runC SqlB .snapshotCommit s).1 = true) :
    ((e.req S).runC SqlB .snapshotCommit s).2.1 = s := C18_tables SqlB readsPure_sql _ S e s he hok h

theorem C18_tables_mem (S : Sys) (e : Ev) (s : Mem)
    (he : match e with | .gcv .. | .gs .. | .as .. | .avLib .. => True | _ => False)
    (hok : ((e.req S).runC MemB .inPlace s).2.2 = true)
    (h : nonMutating e ((e.req S).runC MemB .inPlace s).1 = true) :
    ((e.req S).runC MemB .inPlace s).2.1 = s := C18_tables MemB readsPure_mem _ S e s he hok h

example : nonMutating (.gcv ⟨1⟩ ⟨2⟩) .gone = true ∧ nonMutating (.av ⟨1⟩ ⟨2⟩ ByteArray.empty ⟨3⟩ 0) (.avOk ⟨3⟩ .high) = false := by decide

end Tcs
