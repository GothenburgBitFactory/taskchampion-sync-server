import Tcs.Props.C03
import Tcs.Proofs.HttpProofs
namespace Tcs

/-! # C03 at the HTTP entry

The handlers are `serve h r`; by `serve_factor` a request that passes validation is the protocol
request `e.req` followed by the response encoding and the default header. Interleaving does not
look at responses, so the interleaved run of the handlers is, step for step, the interleaved run
of the protocol requests with every response encoded – and `C03_linearizable_partial` applies to
the latter. -/

variable {σ : Type}

def Th.mapResp {α β : Type} (f : α → β) : Th σ α → Th σ β
  | .idle p => .idle (p.map f)
  | .outside p => .outside (p.map f)
  | .inTxn cl st body k => .inTxn cl st body (fun r => (k r).map f)
  | .finished r => .finished (f r)

def Conc.mapResp {α β : Type} (f : α → β) (s : Conc σ α) : Conc σ β :=
  ⟨s.db, s.lock, s.threads.map (Th.mapResp f)⟩

theorem set_mapResp {α β : Type} (f : α → β) (l : List (Th σ α)) (t : Nat) (x : Th σ α) :
    (l.set t x).map (Th.mapResp f) = (l.map (Th.mapResp f)).set t (Th.mapResp f x) := by
  rw [List.map_set]

theorem stepSmall_mapResp {α β : Type} (B : Backend σ) (mode : TxnMode) (f : α → β) (s : Conc σ α) (t : Nat) :
    stepSmall B mode (s.mapResp f) t = (stepSmall B mode s t).map (Conc.mapResp f) := by
  unfold stepSmall Conc.mapResp
  simp only [List.getElem?_map]
  cases hth : s.threads[t]? with
  | none => rfl
  | some th =>
    simp only [Option.map_some]
    cases th with
    | idle | finished => simp [Th.mapResp]
    | outside p =>
      cases p with
      | done r => simp [Th.mapResp, ReqM.map]
      | txn cl body k =>
        simp only [Th.mapResp, ReqM.map]
        cases s.lock <;> simp [Th.mapResp]
    | inTxn cl st body k =>
      cases body with
      | ret a => simp [Th.mapResp]
      | call c k' =>
        simp only [Th.mapResp]
        cases stepCall B cl c st <;> simp [Th.mapResp]

theorem runSmall_mapResp {α β : Type} (B : Backend σ) (mode : TxnMode) (f : α → β) (s : Conc σ α) (sch : List Nat) :
    runSmall B mode (s.mapResp f) sch = (runSmall B mode s sch).mapResp f := by
  induction sch generalizing s with
  | nil => rfl
  | cons t ts ih =>
    unfold runSmall
    rw [stepSmall_mapResp]
    cases stepSmall B mode s t with
    | none => exact ih s
    | some s' => exact ih s'

/-- **C03 through the HTTP handlers.** Requests that pass validation (`parseReq h r = .ev e`): the interleaved run of the
    HANDLERS under any schedule is the interleaved run of the protocol requests with each response encoded
    (`respond`) and given the default header – same database, same lock, thread by thread. So everything
    `C03_linearizable_partial` says about the protocol-level run holds of the handlers' run, response by response. -/
theorem C03_http_run (I : Impl σ) (h : HttpCfg) (rs : List Request) (evs : List Ev)
    (hparse : rs.map (parseReq h) = evs.map Parsed.ev) (s0 : σ) (sch : List Nat) :
    runSmall I.B I.mode ⟨s0, none, (rs.map (serve h)).map Th.idle⟩ sch =
      (runSmall I.B I.mode (cinit (sysOf h) evs s0) sch).mapResp (fun o => addCC (respond o)) := by
  -- thread by thread: serve h r = (e.req S).map (addCC ∘ respond)
  have hserve : rs.map (serve h) = evs.map fun e => (e.req (sysOf h)).map fun o => addCC (respond o) :=
    map_eq_map_of_key (fun r e hp => by rw [serve_factor, hp]) hparse
  rw [← runSmall_mapResp, hserve]
  simp only [cinit, Conc.mapResp, List.map_map]
  rfl

/-- in particular: the response a handler sends is `addCC (respond o)` for the outcome `o` of its protocol request in the
    protocol-level run (which is linearizable) -/
theorem C03_http_responses (I : Impl σ) (h : HttpCfg) (rs : List Request) (evs : List Ev)
    (hparse : rs.map (parseReq h) = evs.map Parsed.ev) (s0 : σ) (sch : List Nat) (t : Nat) (o : Out)
    (ho : (runSmall I.B I.mode (cinit (sysOf h) evs s0) sch).threads[t]? = some (Th.finished o)) :
    (runSmall I.B I.mode ⟨s0, none, (rs.map (serve h)).map Th.idle⟩ sch).threads[t]? = some (Th.finished (addCC (respond o))) := by
  rw [C03_http_run I h rs evs hparse s0 sch]
  simp only [Conc.mapResp, List.getElem?_map, ho]
  rfl


/-! ## the library entry

`Server::get_child_version`, `add_version`, `add_snapshot`, `get_snapshot` called directly are ONE transaction each
(`Ev.req` of `.gcv`, `.avLib`, `.as`, `.gs` is `one c body f`). `C03_reduction_prefix` turns every interleaving of such
calls into a run in which each transaction is a single step; the lemma below says that this single step IS the
whole request, executed sequentially on the database as it is at that moment. That one step is all that is proved
here; the linearizability of library calls as a theorem is `C03_library_linearizable` (Props/C03), with its
assumptions on drawn ids. -/

theorem C03_library_step {α : Type} (B : Backend σ) (mode : TxnMode) (c : Uuid) (body : TxnM (Except SrvErr α)) (f : α → Out)
    (a : Atomic σ Out) (t : Nat) (h : a.threads[t]? = some (.outside (one c body f))) :
    stepAtomic B mode a t =
      some { db := ((one c body f).runC B mode a.db).2.1,
             threads := a.threads.set t (.outside (.done ((one c body f).runC B mode a.db).1)) } := by
  rw [stepAtomic_of h (thStep_one B mode a.db c body f)]

end Tcs
