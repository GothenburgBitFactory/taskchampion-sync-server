import Tcs.Proofs.Impl
import Tcs.Props.C09
namespace Tcs

/-! # C13 – all storage backends, and a reopened database, behave identically -/

/-- any two backends tied to the abstract storage give the same responses to the same fresh history -/
theorem C13_any_two_backends {σ τ} (I : Impl σ) (J : Impl τ) (S : Sys) (hS : S.ensure = ensureClientFixed)
    (h : List Ev) (hf : Fresh h []) :
    (runH I.B I.mode S h I.init).1 = (runH J.B J.mode S h J.init).1 ∧
    I.abs (runH I.B I.mode S h I.init).2 = J.abs (runH J.B J.mode S h J.init).2 := by
  obtain ⟨i1, i2⟩ := runH_init I S hS h hf
  obtain ⟨j1, j2⟩ := runH_init J S hS h hf
  exact ⟨by rw [i1, j1], by rw [i2, j2]⟩

theorem C13_backends_agree (S : Sys) (hS : S.ensure = ensureClientFixed) (h : List Ev) (hf : Fresh h []) :
    (runH MemB .inPlace S h {}).1 = (runH SqlB .snapshotCommit S h {}).1 :=
  (C13_any_two_backends memImpl sqlImpl S hS h hf).1

/-- no storage error ever occurs in a fresh history (so no response is a 500 "merely because of the backend") -/
theorem C13_no_storage_error {σ} (I : Impl σ) (S : Sys) (hS : S.ensure = ensureClientFixed) (h : List Ev)
    (hf : Fresh h []) : (runHC I.B I.mode S h I.init).2.2 = true := by
  obtain ⟨s', h1, _, _⟩ := hist_init I S hS h hf
  rw [h1]

def notReopen (e : Ev) : Bool := e.client.isSome

/-- abstract level: dropping the `.reopen` events changes no other answer and not the final state -/
theorem asRunH_reopen (S : Sys) (h : List Ev) (a : AS) :
    selectOuts notReopen h (asRunH S h a).1 = (asRunH S (h.filter notReopen) a).1 ∧
    (asRunH S h a).2 = (asRunH S (h.filter notReopen) a).2 :=
  asRunH_filter S notReopen Eq (fun e a a' _ hR => hR ▸ ⟨rfl, rfl⟩)
    (fun e a a' hk hR => (asStep_none S e a (by simpa [notReopen] using hk)).trans hR) h a a rfl

/-- reopening the database (event `.reopen`) at arbitrary points changes no other response and not the final state -/
theorem C13_reopen {σ} (I : Impl σ) (S : Sys) (hS : S.ensure = ensureClientFixed) (h : List Ev) (hf : Fresh h []) :
    selectOuts notReopen h (runH I.B I.mode S h I.init).1 = (runH I.B I.mode S (h.filter notReopen) I.init).1 ∧
    I.abs (runH I.B I.mode S h I.init).2 = I.abs (runH I.B I.mode S (h.filter notReopen) I.init).2 := by
  obtain ⟨h1, h2⟩ := runH_init I S hS h hf
  obtain ⟨f1, f2⟩ := runH_init I S hS (h.filter notReopen) (fresh_filter notReopen h [] [] (fun _ hi => hi) hf)
  rw [h1, h2, f1, f2]
  exact asRunH_reopen S h {}

theorem notReopen_false (e : Ev) : notReopen e = false ↔ e = .reopen := by
  cases e <;> simp [notReopen, Ev.client]

/-- non-vacuity, on the history of `C09Ex`: the reopen in the middle is answered `reopened` and nothing else moves -/
example : (asRunH C09Ex.S C09Ex.h {}).1.length = 8 ∧ (C09Ex.h.filter notReopen).length = 7 ∧
    selectOuts notReopen C09Ex.h (runH SqlB .snapshotCommit C09Ex.S C09Ex.h {}).1 =
      (runH MemB .inPlace C09Ex.S (C09Ex.h.filter notReopen) {}).1 := by decide +kernel

end Tcs
