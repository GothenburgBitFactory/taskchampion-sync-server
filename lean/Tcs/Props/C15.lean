import Tcs.Proofs.HttpProofs
import Tcs.Proofs.Impl
namespace Tcs

/-! # C15 – malformed or oversized requests are answered 4xx and change nothing; no 5xx -/

/-- a refused request is answered 4xx (400, 403 or 404) without any storage access -/
theorem C15_refused (h : HttpCfg) (r : Request) (f : Refusal) (hp : parseReq h r = .refused f) :
    serve h r = .done (addCC (refuse f)) ∧ (400 ≤ (refuse f).status ∧ (refuse f).status < 500) := by
  refine ⟨by rw [serve_factor, hp], ?_⟩
  cases f <;> simp [refuse, Refusal.status]

theorem C15_unknown_route (h : HttpCfg) (r : Request) (hp : parseReq h r = .unknown) : serve h r = .done (addCC { status := 404 }) := by
  rw [serve_factor, hp]

/-- a request that yields no protocol request opens no transaction and leaves every backend state untouched -/
theorem C15_refused_no_storage {σ} (B : Backend σ) (mode : TxnMode) (h : HttpCfg) (r : Request) (s : σ)
    (hp : ∀ e, parseReq h r ≠ .ev e) : ((serve h r).run B mode s).2 = s ∧ (serve h r).txnCount B mode s = 0 := by
  rw [serve_factor]
  cases hq : parseReq h r with
  | index | unknown | refused => exact ⟨rfl, rfl⟩
  | ev e => exact absurd hq (hp e)

/-- the size limit is inclusive, for every chunking -/
theorem C15_limit_inclusive (maxSize : Nat) (chunks : List Bytes) :
    (assemble maxSize chunks ByteArray.empty).isSome ↔ (chunks.map (·.size)).sum ≤ maxSize := by
  rw [assemble_empty]
  simp

/-- the body loop gives up on a body over the limit, for every chunking; on both upload routes `parseReq` then answers
    `.refused .badRequest` (unless an earlier check has refused already), which `C15_refused` turns into a 400 -/
theorem C15_oversized (maxSize : Nat) (chunks : List Bytes) (h : maxSize < (chunks.map (·.size)).sum) :
    assemble maxSize chunks ByteArray.empty = none := by
  rw [assemble_empty, if_neg (by omega)]

/-- no 5xx: on every backend, from every reachable state, a request (whose drawn id is fresh) is never answered with a server error -/
theorem C15_no_5xx {σ} (I : Impl σ) (h : HttpCfg) (hS : h.ensure = ensureClientFixed) (r : Request) (s : σ) (hg : Good I s)
    (hf : r.newId ∉ (I.abs s).ids) : ((serve h r).run I.B I.mode s).1.status ≠ 500 ∧ ((serve h r).runC I.B I.mode s).2.2 = true := by
  rw [serve_factor]
  cases hp : parseReq h r with
  | index | unknown => exact ⟨by simp [ReqM.run, ReqM.runC, addCC], rfl⟩
  | refused f => exact ⟨by cases f <;> simp [ReqM.run, ReqM.runC, addCC, refuse, Refusal.status], rfl⟩
  | ev e =>
    obtain ⟨s', h1, _, _⟩ := req_good I (sysOf h) hS e s hg (by
      obtain ⟨_, _, _, hd⟩ := parseReq_ev_client h r e hp
      intro n hn; rw [hd n hn]; exact hf)
    simp only [map_runC, ReqM.run, h1, addCC, and_true]
    intro h5
    exact asStep_ne_storageError _ _ _ ((respond_500 _).1 h5)

end Tcs
