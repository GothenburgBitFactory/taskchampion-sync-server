import Tcs.Proofs.ReqFault
namespace Tcs

/-! # C04 – atomicity and durability of the SQLite backend across crashes

A crash of the process (or power loss) at storage-call index `k` is the fault oracle `crashFrom k`: no call with an
index ≥ `k` (transaction begins included) takes effect. Transactions work on a copy that is installed by `commit`
(`TxnSt.durable`), which is what SQLite's journal gives. The theorems hold for every backend whose `commit` call
succeeds and leaves the tables alone (`CommitId`), in particular for the SQLite model (`C04_sql_commit`). -/

/-- C04 (a) no half-applied write: for every HTTP request, every backend state, every crash point: the database that
    survives is a state between two transactions of the request's fault-free run (for the single-transaction operations:
    exactly the state before or the state after; for a first AddVersion additionally the state where only the (empty)
    client record exists) -/
theorem C04_atomic {σ} (B : Backend σ) (hB : CommitId B) (h : HttpCfg) (hS : h.ensure = ensureClientFixed) (r : Request)
    (k : Nat) (s : σ) :
    ((serve h r).runF B (crashFrom k) 0 s).2.1 ∈ (serve h r).txnStates B s :=
  crash_state_between_txns B hB (serve h r) (allCommitLast_serve h (.inl hS) r) (crashFrom k) k (fun _ => crashFrom_lt)
    (fun _ hi => by rw [crashFrom_ge hi]; nofun) 0 s

/-- C04 (b), general form: under a crash at index `k` a request either ran entirely before the crash point, and then
    response, database and call count are those of the crash-free run, or it is answered with an error status (≥ 400;
    in fact 500) -/
theorem C04_ack_or_error {σ} (B : Backend σ) (h : HttpCfg) (r : Request) (k n : Nat) (s : σ) :
    (serve h r).runF B (crashFrom k) n s = (serve h r).runF B noFault n s ∨
    ¬ ((serve h r).runF B (crashFrom k) n s).1.status < 400 :=
  Decidable.or_iff_not_imp_right.2 (reqRunF_acked B _ _ (failFast_serve h r) n s)

/-- C04 (b) acknowledged ⇒ durable: if, despite a crash point at index k, the request still produced a success response
    (status < 400), then the crash point lies after everything the request did: the response and the surviving database
    are those of the crash-free run -/
theorem C04_ack_durable {σ} (B : Backend σ) (hB : CommitId B) (h : HttpCfg) (hS : h.ensure = ensureClientFixed)
    (r : Request) (k : Nat) (s : σ)
    (hok : ((serve h r).runF B (crashFrom k) 0 s).1.status < 400) :
    ((serve h r).runF B (crashFrom k) 0 s).1 = ((serve h r).run B .snapshotCommit s).1 ∧
    ((serve h r).runF B (crashFrom k) 0 s).2.1 = ((serve h r).run B .snapshotCommit s).2 := by
  -- the statement carries two hypotheses the proof does not need
  have _ := hB
  have _ := hS
  rw [(C04_ack_or_error B h r k 0 s).resolve_right (not_not_intro hok)]
  exact reqRunF_noFault B (serve h r) 0 s

/-- C04 (b'), the crash point of an acknowledged request lies after its last storage call: every call index the
    request consumed (begins included) is below `k` -/
theorem C04_ack_before_crash {σ} (B : Backend σ) (h : HttpCfg) (r : Request) (k : Nat) (s : σ)
    (hok : ((serve h r).runF B (crashFrom k) 0 s).1.status < 400) :
    ((serve h r).runF B (crashFrom k) 0 s).2.2 ≤ k :=
  -- otherwise index `k`, where the oracle fails, was consumed
  Nat.le_of_not_lt fun hlt => reqRunF_fault_bad B _ _ (failFast_serve h r) 0 s
    ⟨k, Nat.zero_le k, hlt, by rw [crashFrom_ge (Nat.le_refl k)]; exact nofun⟩ hok

/-- C04 (c), the clause that is property C05 read on the programs: on every path of the five transaction programs
    `commit`, if it occurs, is the last call and the value is returned right after it, so a success value is only
    produced after `commit` returned -/
theorem C04_ack_after_commit (cfg : Config) (P : Params) (p v : Uuid) (seg : Bytes) (newId : Uuid) (now : Int) :
    CommitLast (addVersion cfg p seg newId now) ∧ CommitLast (addSnapshot P v seg now) ∧
    CommitLast (getChildVersion p) ∧ CommitLast getSnapshot ∧ CommitLast ensureClientFixed :=
  ⟨commitLast_addVersion cfg p seg newId now, commitLast_addSnapshot P v seg now, commitLast_getChildVersion p,
    commitLast_getSnapshot, commitLast_ensureFixed⟩

/-- the SQLite model satisfies the side condition -/
theorem C04_sql_commit : CommitId SqlB := commitId_sql

end Tcs
