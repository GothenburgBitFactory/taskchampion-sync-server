import Tcs.Proofs.HttpProofs
namespace Tcs

/-! # C16 – the allow-list is enforced on every endpoint -/

/-- no storage access at all -/
def noTxn {α} : ReqM α → Prop | .done _ => True | .txn .. => False

/-- the client-id check of a request whose header parses to `c` -/
theorem clientIdHeader_parsed (allow : Option (List Uuid)) (r : Request) (c : Uuid)
    (hc : (header r "x-client-id").bind (fun v => (toStr v).bind parseUuid) = some c) :
    clientIdHeader allow r = match allow with
      | some l => if c ∈ l then .ok c else .error .forbidden
      | none => .ok c := by
  unfold clientIdHeader
  cases hh : header r "x-client-id" with
  | none => rw [hh] at hc; simp at hc
  | some v =>
    rw [hh] at hc
    simp only [Option.bind_some] at hc
    simp only [hc]
    rfl

theorem clientIdHeader_unlisted {h : HttpCfg} {l : List Uuid} (hl : h.allow = some l) {r : Request} {c : Uuid}
    (hc : (header r "x-client-id").bind (fun v => (toStr v).bind parseUuid) = some c) (hn : c ∉ l) :
    clientIdHeader h.allow r = .error .forbidden := by
  rw [clientIdHeader_parsed h.allow r c hc, hl]; simp [hn]

/-- the allow-list is consulted only through the client-id check: when that check fails, a request that
    would be served under another list is refused with exactly the check's refusal -/
theorem parseReq_check_fails (h h' : HttpCfg) (r : Request) (e : Ev) (f : Refusal)
    (hwf : parseReq h' r = .ev e) (hcid : clientIdHeader h.allow r = .error f) : parseReq h r = .refused f := by
  revert hwf
  -- arm by arm: whatever is checked before the client id passes, since it passed under `h'`
  refine dispatch_rel (fun q' q : Parsed => q' = .ev e → q = .refused f) r.method (pathSegments r.path) nofun
    (fun seg => ?_) (fun seg => ?_) ?_ (fun seg => ?_) nofun <;> rw [hcid]
  · cases pathId seg with
    | none => nofun
    | some p => exact fun _ => rfl
  · cases pathId seg with
    | none => nofun
    | some p =>
      dsimp only
      by_cases hct : contentType r ≠ HS_CT.toUTF8.toList
      · rw [if_pos hct]; nofun
      · rw [if_neg hct, if_neg hct]; exact fun _ => rfl
  · exact fun _ => rfl
  · cases pathId seg with
    | none => nofun
    | some p =>
      dsimp only
      by_cases hct : contentType r ≠ SNAP_CT.toUTF8.toList
      · rw [if_pos hct]; nofun
      · rw [if_neg hct, if_neg hct]; exact fun _ => rfl

/-- the handlers see the allow-list only through the client-id check -/
theorem serve_allow_congr (h : HttpCfg) (a a' : Option (List Uuid)) (r : Request)
    (hc : clientIdHeader a r = clientIdHeader a' r) : serve { h with allow := a } r = serve { h with allow := a' } r := by
  unfold serve route
  rw [show clientIdHeader (HttpCfg.allow { h with allow := a }) r = clientIdHeader (HttpCfg.allow { h with allow := a' }) r from hc]

/-- a request whose X-Client-Id parses to an id that is not on the configured list: refused with 403 (or 400/404 if it is ALSO otherwise malformed), never reaches storage, independent of the state -/
theorem C16_unlisted (h : HttpCfg) (l : List Uuid) (hl : h.allow = some l) (r : Request) (c : Uuid)
    (hc : (header r "x-client-id").bind (fun v => (toStr v).bind parseUuid) = some c) (hn : c ∉ l) (hidx : parseReq h r ≠ .index) :
    noTxn (serve h r) ∧ ∃ resp, serve h r = .done resp ∧ (resp.status = 403 ∨ resp.status = 400 ∨ resp.status = 404) := by
  have hcid := clientIdHeader_unlisted hl hc hn
  rw [serve_factor]
  cases hp : parseReq h r with
  | index => exact absurd hp hidx
  | unknown => exact ⟨trivial, _, rfl, Or.inr (Or.inr rfl)⟩
  | refused f => exact ⟨trivial, _, rfl, refusal_status f⟩
  | ev e =>
    obtain ⟨c', hc', _⟩ := parseReq_ev_client h r e hp
    rw [hcid] at hc'; cases hc'

/-- an unlisted id is refused with 403 whenever the request is otherwise well-formed (i.e. it would be served without the list) -/
theorem C16_unlisted_403 (h : HttpCfg) (l : List Uuid) (hl : h.allow = some l) (r : Request) (c : Uuid)
    (hc : (header r "x-client-id").bind (fun v => (toStr v).bind parseUuid) = some c) (hn : c ∉ l)
    (e : Ev) (hwf : parseReq { h with allow := none } r = .ev e) : serve h r = .done (addCC (refuse .forbidden)) := by
  rw [serve_factor, parseReq_check_fails h { h with allow := none } r e .forbidden hwf (clientIdHeader_unlisted hl hc hn)]

/-- listed clients are served exactly as if no list existed -/
theorem C16_listed_transparent (h : HttpCfg) (l : List Uuid) (r : Request) (c : Uuid)
    (hc : (header r "x-client-id").bind (fun v => (toStr v).bind parseUuid) = some c) (hin : c ∈ l) :
    serve { h with allow := some l } r = serve { h with allow := none } r :=
  serve_allow_congr h _ _ r (by rw [clientIdHeader_parsed _ r c hc, clientIdHeader_parsed _ r c hc]; exact if_pos hin)

/-- with no list every well-formed client id passes the client-id check -/
theorem C16_no_list (r : Request) (c : Uuid) (hc : (header r "x-client-id").bind (fun v => (toStr v).bind parseUuid) = some c) :
    clientIdHeader none r = .ok c := by
  rw [clientIdHeader_parsed _ r c hc]

/-- an empty list refuses everyone -/
theorem C16_empty_list (r : Request) (c : Uuid) (hc : (header r "x-client-id").bind (fun v => (toStr v).bind parseUuid) = some c) :
    clientIdHeader (some []) r = .error .forbidden := by
  rw [clientIdHeader_parsed _ r c hc]; simp

end Tcs
