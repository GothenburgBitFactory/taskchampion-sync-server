import Tcs.Props.C01
namespace Tcs

/-! # C07 – accepted history is immutable -/

/-- accepted versions only ever grow at the end -/
theorem accepted_append_prefix (S : Sys) (h h' : List Ev) (a : AS) (c : Uuid) :
    accepted c (h ++ h') (asRunH S (h ++ h') a).1 =
      accepted c h (asRunH S h a).1 ++ accepted c h' (asRunH S h' (asRunH S h a).2).1 := by
  induction h generalizing a with
  | nil => simp [asRunH, accepted]
  | cons e es ih => simp only [List.cons_append, asRunH, accepted, ih, List.append_assoc]

/-- C07: once accepted (during `h`), a version is returned — same id, parent, payload — for the child of its parent after
    ANY fresh continuation `h'` (further versions, snapshots, rejected requests, other clients' activity, reopen events) -/
theorem C07_immutable {σ} (I : Impl σ) (S : Sys) (hS : S.ensure = ensureClientFixed) (h h' : List Ev)
    (hf : Fresh (h ++ h') []) (c : Uuid) (v : Version) (hv : v ∈ accepted c h (runH I.B I.mode S h I.init).1) :
    (((Ev.gcv c v.parent).req S).run I.B I.mode (runH I.B I.mode S (h ++ h') I.init).2).1 = Out.found v := by
  obtain ⟨_, ho, _⟩ := hist_accepted I S hS h (fresh_append_left h h' [] hf)
  obtain ⟨hg, ho', hst⟩ := hist_accepted I S hS (h ++ h') hf
  rw [ho] at hv
  have hmem : v ∈ ((I.abs (runH I.B I.mode S (h ++ h') I.init).2).st c).versions := by
    rw [hst c, ho', accepted_append_prefix]
    exact List.mem_append_left _ hv
  have hci := hg.inv.each c
  rw [gcv_good I S hS _ hg]
  have hfind := find_parent_of_mem _ _ hci.wf v hmem
  cases hcl : ((I.abs (runH I.B I.mode S (h ++ h') I.init).2).st c).client with
  | none =>
    rw [(hci.noClient hcl).1] at hmem
    cases hmem
  | some cl => simp [cGetChild, hcl, hfind]

/-- the list of accepted versions of a longer history extends that of the shorter one -/
theorem C07_prefix {σ} (I : Impl σ) (S : Sys) (hS : S.ensure = ensureClientFixed) (h h' : List Ev)
    (hf : Fresh (h ++ h') []) (c : Uuid) :
    ∃ more, accepted c (h ++ h') (runH I.B I.mode S (h ++ h') I.init).1 =
      accepted c h (runH I.B I.mode S h I.init).1 ++ more := by
  obtain ⟨_, ho, _⟩ := hist_accepted I S hS h (fresh_append_left h h' [] hf)
  obtain ⟨_, ho', _⟩ := hist_accepted I S hS (h ++ h') hf
  rw [ho, ho', accepted_append_prefix]
  exact ⟨_, rfl⟩

theorem C07_immutable_sql (S : Sys) (hS : S.ensure = ensureClientFixed) (h h' : List Ev) (hf : Fresh (h ++ h') []) (c : Uuid)
    (v : Version) (hv : v ∈ accepted c h (runH SqlB .snapshotCommit S h {}).1) :
    (((Ev.gcv c v.parent).req S).run SqlB .snapshotCommit (runH SqlB .snapshotCommit S (h ++ h') {}).2).1 = Out.found v :=
  C07_immutable sqlImpl S hS h h' hf c v hv

theorem C07_immutable_mem (S : Sys) (hS : S.ensure = ensureClientFixed) (h h' : List Ev) (hf : Fresh (h ++ h') []) (c : Uuid)
    (v : Version) (hv : v ∈ accepted c h (runH MemB .inPlace S h {}).1) :
    (((Ev.gcv c v.parent).req S).run MemB .inPlace (runH MemB .inPlace S (h ++ h') {}).2).1 = Out.found v :=
  C07_immutable memImpl S hS h h' hf c v hv

/-! ### non-vacuity: the first version of client 1 (accepted during the first event) is still served, unchanged, after
    another client's version, a rejected stale AddVersion, a further version, a snapshot, a reopen and a read -/

namespace C07Ex
def h : List Ev := [ .av ⟨1⟩ ⟨5⟩ ⟨#[1]⟩ ⟨10⟩ 0 ]
def h' : List Ev :=
  [ .av ⟨2⟩ Uuid.nil ⟨#[2]⟩ ⟨11⟩ 0, .av ⟨1⟩ ⟨5⟩ ⟨#[3]⟩ ⟨12⟩ 0, .av ⟨1⟩ ⟨10⟩ ⟨#[4]⟩ ⟨13⟩ 0,
    .as ⟨1⟩ ⟨13⟩ ⟨#[9]⟩ 7, .reopen, .gs ⟨1⟩ ]
end C07Ex

example : Fresh (C07Ex.h ++ C07Ex.h') [] := by
  simp [C07Ex.h, C07Ex.h', Fresh, FreshEv, seenAfter, Ev.drawn, Ev.argIds, Uuid.nil]

example : (⟨⟨10⟩, ⟨5⟩, ⟨#[1]⟩⟩ : Version) ∈ accepted ⟨1⟩ C07Ex.h (runH SqlB .snapshotCommit C01Ex.S C07Ex.h {}).1 := by decide +kernel

example : (runH SqlB .snapshotCommit C01Ex.S (C07Ex.h ++ C07Ex.h') {}).1 =
    [.avOk ⟨10⟩ .high, .avOk ⟨11⟩ .high, .avConflict ⟨10⟩, .avOk ⟨13⟩ .high, .asDone true, .reopened,
     .snap ⟨13⟩ ⟨#[9]⟩] := by decide +kernel

example : (((Ev.gcv ⟨1⟩ ⟨5⟩).req C01Ex.S).run SqlB .snapshotCommit
    (runH SqlB .snapshotCommit C01Ex.S (C07Ex.h ++ C07Ex.h') {}).2).1 = .found ⟨⟨10⟩, ⟨5⟩, ⟨#[1]⟩⟩ := by decide +kernel

example : accepted ⟨1⟩ (C07Ex.h ++ C07Ex.h') (runH MemB .inPlace C01Ex.S (C07Ex.h ++ C07Ex.h') {}).1 =
    accepted ⟨1⟩ C07Ex.h (runH MemB .inPlace C01Ex.S C07Ex.h {}).1 ++ [⟨⟨13⟩, ⟨10⟩, ⟨#[4]⟩⟩] := by decide +kernel

end Tcs
