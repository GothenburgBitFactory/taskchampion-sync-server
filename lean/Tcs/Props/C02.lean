import Tcs.Proofs.Impl
namespace Tcs

/-! # C02 – AddVersion is an atomic compare-and-append on the latest version -/

/-- the client's latest version as the protocol sees it (`nil` = no versions yet / never seen) -/
def latestOf (x : CSt) : Uuid := match x.client with | some c => c.latest | none => Uuid.nil

def snapOf (x : CSt) : Option Snapshot := x.client.bind (·.snap)

/-- Specification level: the HTTP-level AddVersion is accepted exactly when the client has no versions
    yet or `p` is its latest; accepted ⇒ answer carries `newId`, which becomes the latest and is stored
    with exactly the submitted parent and payload, the counter is bumped, nothing else changes;
    rejected ⇒ the answer names the latest and the record is unchanged (up to the bare creation of a
    never-seen client, which cannot happen on rejection). -/
theorem C02_spec (S : Sys) (x : CSt) (c p : Uuid) (seg : Bytes) (newId : Uuid) (now : Int) :
    let r := cstep S (.av c p seg newId now) x
    if latestOf x = Uuid.nil ∨ p = latestOf x then
      r.1 = .avOk newId (urgency S.cfg now (snapOf x)) ∧
      latestOf r.2 = newId ∧
      r.2.versions = x.versions ++ [⟨newId, p, seg⟩] ∧
      snapOf r.2 = (snapOf x).map bump ∧ r.2.data = x.data
    else
      r.1 = .avConflict (latestOf x) ∧ r.2 = x := by
  rcases x with ⟨_ | cl, d, vs⟩
  · simp [cstep, cAddVersion, cCreate, latestOf, snapOf, urgency]
  · by_cases h1 : cl.latest = Uuid.nil
    · simp [cstep, cAddVersion, cCreate, latestOf, snapOf, h1]
    · by_cases h2 : p = cl.latest
      · simp [cstep, cAddVersion, cCreate, latestOf, snapOf, h2]
      · simp [cstep, cAddVersion, cCreate, latestOf, h1, h2]

/-- On every backend, from every reachable (good) state, for every fresh drawn id: the request
    completes without a storage error with exactly the specification's answer and effect, and the
    records of all other clients are untouched. -/
theorem C02_atomic_compare_append {σ} (I : Impl σ) (S : Sys) (hS : S.ensure = ensureClientFixed) (s : σ) (hg : Good I s)
    (c p : Uuid) (seg : Bytes) (newId : Uuid) (now : Int) (hfresh : newId ∉ (I.abs s).ids) :
    ∃ s', ((Ev.av c p seg newId now).req S).runC I.B I.mode s =
            ((cstep S (.av c p seg newId now) ((I.abs s).st c)).1, s', true) ∧
          (I.abs s').st c = (cstep S (.av c p seg newId now) ((I.abs s).st c)).2 ∧
          (∀ d, d ≠ c → (I.abs s').st d = (I.abs s).st d) := by
  obtain ⟨s', h1, h2, h3, _⟩ := req_good_client I S hS (.av c p seg newId now) c rfl s hg
    (by intro n hn; simp [Ev.drawn] at hn; subst hn; exact hfresh)
  exact ⟨s', h1, h2, h3⟩

/-- the accepted id is never one that is already stored for any client, and is the drawn id -/
theorem C02_new_id_never_issued {σ} (I : Impl σ) (S : Sys) (s : σ) (c p : Uuid) (seg : Bytes) (newId : Uuid) (now : Int)
    (hfresh : newId ∉ (I.abs s).ids) (hg : Good I s) (v : Uuid) (u : Urgency)
    (h : (cstep S (.av c p seg newId now) ((I.abs s).st c)).1 = .avOk v u) :
    v = newId ∧ ∀ d, ∀ w ∈ ((I.abs s).st d).versions, w.id ≠ v := by
  have hv := avOk_id S _ _ v u h
  simp [Ev.drawn] at hv
  subst hv
  exact ⟨rfl, fun d w hw hid => hfresh (hid ▸ hg.inv.ids d w hw)⟩

/-- non-vacuity: a client with one version, parent = latest is accepted, a stale parent is rejected -/
example : let x : CSt := { client := some ⟨⟨7⟩, none⟩, versions := [⟨⟨7⟩, Uuid.nil, ByteArray.empty⟩] }
    (cstep { cfg := ⟨14, 100⟩ } (.av ⟨1⟩ ⟨7⟩ ByteArray.empty ⟨9⟩ 0) x).1 = .avOk ⟨9⟩ .high ∧
    (cstep { cfg := ⟨14, 100⟩ } (.av ⟨1⟩ Uuid.nil ByteArray.empty ⟨9⟩ 0) x).1 = .avConflict ⟨7⟩ := by
  decide +kernel

end Tcs
