import Tcs.Proofs.Impl
namespace Tcs

/-! # C10 – AddSnapshot replaces the stored snapshot exactly for a recent, newer version -/

/-- the version id of the stored snapshot, if any -/
def curSnap (x : CSt) : Option Uuid := x.client.bind fun c => c.snap.map (·.vid)

/-- the client's chain from the latest backwards: `[latest, parent of latest, …, first id, base]` -/
def anc (x : CSt) : List Uuid := ancestors (baseOf x.versions) x.versions

theorem curSnap_some (x : CSt) (c : Client) (hc : x.client = some c) : curSnap x = c.snap.map (·.vid) := by
  simp [curSnap, hc]

theorem curSnap_eq_some (x : CSt) (v : Uuid) (h : curSnap x = some v) :
    ∃ c sn, x.client = some c ∧ c.snap = some sn ∧ sn.vid = v := by
  rcases x with ⟨_ | c, d, vs⟩
  · simp [curSnap] at h
  · simp only [curSnap, Option.bind_some, Option.map_eq_some_iff] at h
    obtain ⟨sn, h1, h2⟩ := h
    exact ⟨c, sn, rfl, h1, h2⟩

theorem anc_nodup (x : CSt) (hx : CInv x) : (anc x).Nodup :=
  (List.reverse_perm _).nodup_iff.2 hx.nodup

theorem mem_anc (x : CSt) (v : Uuid) : v ∈ anc x ↔ v ∈ baseOf x.versions :: vids x.versions := by
  simp only [anc, ancestors, List.mem_reverse]

/-- only the base (the last entry of `anc`) can be nil -/
theorem anc_nonNil (x : CSt) (hx : CInv x) : ∀ i, i + 1 < (anc x).length → (anc x)[i]? ≠ some Uuid.nil := by
  intro i hi h
  have hl : anc x = (vids x.versions).reverse ++ [baseOf x.versions] := by
    simp [anc, ancestors]
  rw [hl] at hi h
  rw [List.getElem?_append_left (by simpa using hi)] at h
  exact hx.nonNil (List.mem_reverse.1 (List.mem_of_getElem? h))

/-- the acceptance test of `cAddSnapshot`, as a scan over the ancestors -/
theorem cAddSnapshot_accept (P : Params) (x : CSt) (hx : CInv x) (c : Client) (hc : x.client = some c) (v : Uuid)
    (data : Bytes) (now : Int) :
    (cAddSnapshot P x v data now).1 = .asDone true ↔
      some v ≠ curSnap x ∧ scan v (curSnap x) P.searchLen (anc x) = true := by
  have hw := walkBack_eq_scan _ _ hx.wf v (curSnap x) P.searchLen
  rw [← hx.latest c hc] at hw
  rw [curSnap_some x c hc] at hw ⊢
  unfold cAddSnapshot
  simp only [hc]
  by_cases h1 : some v = c.snap.map (·.vid)
  · simp [h1]
  · simp only [h1, ↓reduceIte, hw, anc]
    cases scan v (Option.map (fun x => x.vid) c.snap) P.searchLen (ancestors (baseOf x.versions) x.versions) <;> simp [h1]

/-- C10 acceptance rule, for every record satisfying the invariant (hence every reachable record), window = `P.searchLen` -/
theorem C10_accept_iff (P : Params) (x : CSt) (hx : CInv x) (hc : x.client ≠ none) (v : Uuid) (data : Bytes) (now : Int) :
    (cAddSnapshot P x v data now).1 = .asDone true ↔
      v ≠ Uuid.nil ∧ some v ≠ curSnap x ∧
      ∃ i, i < P.searchLen ∧ (anc x)[i]? = some v ∧ ∀ j, j < i → ∀ u, (anc x)[j]? = some u → some u ≠ curSnap x := by
  obtain ⟨c, hc'⟩ := Option.ne_none_iff_exists'.1 hc
  rw [cAddSnapshot_accept P x hx c hc' v data now, scan_true_iff v (curSnap x) P.searchLen (anc x)]
  constructor
  · rintro ⟨h1, h2, i, hi, hget, hprev⟩
    exact ⟨h2, h1, i, hi, hget, fun j hj u hu => (hprev j hj u hu).2.1⟩
  · rintro ⟨h2, h1, i, hi, hget, hprev⟩
    have hil := (List.getElem?_eq_some_iff.1 hget).1
    have hn := anc_nodup x hx
    refine ⟨h1, h2, i, hi, hget, fun j hj u hu => ⟨?_, hprev j hj u hu, ?_⟩⟩
    · -- the chain has no duplicates: `v` sits at `i` only
      rintro rfl
      exact absurd ((idxOf_eq_of_getElem? hn hu).symm.trans (idxOf_eq_of_getElem? hn hget)) (Nat.ne_of_lt hj)
    · -- only the base, the last entry, can be nil
      rintro rfl
      exact anc_nonNil x hx j (by omega) hu

/-- the stated window is five -/
theorem C10_window_five : ({} : Params).searchLen = 5 := rfl

/-- success either way: for a known client the answer is `asDone _`, never an error -/
theorem C10_told_success (P : Params) (x : CSt) (hc : x.client ≠ none) (v : Uuid) (data : Bytes) (now : Int) :
    ∃ b, (cAddSnapshot P x v data now).1 = .asDone b := by
  rcases x with ⟨_ | c, d, vs⟩
  · exact absurd rfl hc
  · simp only [cAddSnapshot]
    split
    · exact ⟨false, rfl⟩
    · split
      · exact ⟨true, rfl⟩
      · exact ⟨false, rfl⟩

/-- **whatever the window is** (as long as it is not empty): a snapshot at the client's latest version, while another
    version (or none) holds the snapshot, is accepted. This is the one case of acceptance the oracle of C11 decides
    without asking the implementation (`tools/oracles.py`, `o_c11`). -/
theorem C10_latest_accepted_any_window (P : Params) (hP : 1 ≤ P.searchLen) (x : CSt) (hx : CInv x) (hc : x.client ≠ none)
    (v : Uuid) (data : Bytes) (now : Int) (hlatest : (anc x)[0]? = some v) (hnil : v ≠ Uuid.nil) (hcur : some v ≠ curSnap x) :
    (cAddSnapshot P x v data now).1 = .asDone true := by
  rw [C10_accept_iff P x hx hc v data now]
  exact ⟨hnil, hcur, 0, by omega, hlatest, fun j hj => absurd hj (by omega)⟩

/-- **whatever the window is**: a snapshot at an id that is neither one of the client's own versions nor the parent its
    chain started from is declined. This is the one case of a decline the oracle of C18 decides without asking the
    implementation (`o_c18`: a version that another client was given). -/
theorem C10_off_chain_declined_any_window (P : Params) (x : CSt) (hx : CInv x) (hc : x.client ≠ none)
    (v : Uuid) (data : Bytes) (now : Int) (hoff : v ∉ baseOf x.versions :: vids x.versions) :
    (cAddSnapshot P x v data now).1 = .asDone false := by
  obtain ⟨b, hb⟩ := C10_told_success P x hc v data now
  cases b with
  | false => exact hb
  | true =>
    obtain ⟨_, _, i, _, hget, _⟩ := (C10_accept_iff P x hx hc v data now).1 hb
    exact absurd ((mem_anc x v).1 (List.mem_of_getElem? hget)) hoff

/-- effect: replaced ⇒ record becomes (v, now, 0) with the uploaded bytes, versions and latest untouched;
    declined ⇒ nothing changes -/
theorem C10_effect (P : Params) (x : CSt) (v : Uuid) (data : Bytes) (now : Int) :
    ((cAddSnapshot P x v data now).1 = .asDone true →
        ∃ c, x.client = some c ∧ (cAddSnapshot P x v data now).2 =
          { client := some { latest := c.latest, snap := some ⟨v, now, 0⟩ }, data := some data, versions := x.versions }) ∧
    ((cAddSnapshot P x v data now).1 ≠ .asDone true → (cAddSnapshot P x v data now).2 = x) := by
  rcases cAddSnapshot_cases P x v data now with ⟨c, hc, h⟩ | ⟨h1, h2⟩
  · exact ⟨fun _ => ⟨c, hc, by rw [h]⟩, fun hn => absurd (by rw [h]) hn⟩
  · exact ⟨fun h => absurd h h2, fun _ => h1⟩

/-- the snapshot version is always on the chain (a stored version or the base) -/
theorem C10_on_chain (x : CSt) (hx : CInv x) (v : Uuid) (h : curSnap x = some v) : v ∈ anc x ∧ v ≠ Uuid.nil := by
  obtain ⟨c, sn, hc, hs, rfl⟩ := curSnap_eq_some x v h
  obtain ⟨_, h2, h3, _⟩ := hx.snapSome c sn hc hs
  exact ⟨(mem_anc x sn.vid).2 h2, h3⟩

/-- never backwards: on replacement the new snapshot version is strictly newer (closer to the latest) than the old one -/
theorem C10_moves_forward (P : Params) (x : CSt) (hx : CInv x) (v old : Uuid) (data : Bytes) (now : Int)
    (ho : curSnap x = some old) (h : (cAddSnapshot P x v data now).1 = .asDone true) :
    (anc x).idxOf v < (anc x).idxOf old := by
  obtain ⟨c, _, hc, _, _⟩ := curSnap_eq_some x old ho
  obtain ⟨_, hne, i, _, hget, hprev⟩ := (C10_accept_iff P x hx (by simp [hc]) v data now).1 h
  obtain ⟨k, hk⟩ := List.mem_iff_getElem?.1 (C10_on_chain x hx old ho).1
  have hn := anc_nodup x hx
  rw [idxOf_eq_of_getElem? hn hget, idxOf_eq_of_getElem? hn hk]
  -- `old` sits neither before `v` (the scan would have stopped there) nor at `v` itself
  rcases Nat.lt_trichotomy i k with hlt | rfl | hgt
  · exact hlt
  · exact absurd ((Option.some.inj (hget.symm.trans hk)) ▸ ho.symm) hne
  · exact absurd ho.symm (hprev k hgt old hk)

/-- adding versions never moves the snapshot version backwards either: its distance from the BASE is unchanged
    (ancestors grow at the head) -/
theorem C10_anc_grows (x : CSt) (v : Version) :
    anc { x with versions := x.versions ++ [v] } = v.id :: ancestors (baseOf (x.versions ++ [v])) x.versions := by
  simp only [anc, ancestors_append]

/-- concrete backends: the request completes without a storage error with the specification's answer and effect -/
theorem C10_on_backend {σ} (I : Impl σ) (S : Sys) (hS : S.ensure = ensureClientFixed) (s : σ) (hg : Good I s)
    (c v : Uuid) (data : Bytes) (now : Int) :
    ∃ s', ((Ev.as c v data now).req S).runC I.B I.mode s = ((cAddSnapshot S.params ((I.abs s).st c) v data now).1, s', true) ∧
      (I.abs s').st c = (cAddSnapshot S.params ((I.abs s).st c) v data now).2 ∧
      (∀ d, d ≠ c → (I.abs s').st d = (I.abs s).st d) ∧ (I.abs s').ids = (I.abs s).ids := by
  obtain ⟨s', h1, h2, h3, h4⟩ := req_good_client I S hS (.as c v data now) c rfl s hg nofun
  exact ⟨s', h1, h2, h3, h4.trans (List.append_nil _)⟩

/-- seven versions `1 ← 2 ← … ← 7` from the nil base; `anc = [7,6,5,4,3,2,1,nil]` -/
def c10Chain : List Version :=
  [⟨⟨1⟩, Uuid.nil, .empty⟩, ⟨⟨2⟩, ⟨1⟩, .empty⟩, ⟨⟨3⟩, ⟨2⟩, .empty⟩, ⟨⟨4⟩, ⟨3⟩, .empty⟩,
   ⟨⟨5⟩, ⟨4⟩, .empty⟩, ⟨⟨6⟩, ⟨5⟩, .empty⟩, ⟨⟨7⟩, ⟨6⟩, .empty⟩]

/-- no snapshot yet: the 5th most recent version (3) is accepted, the 6th (2) is declined, nil is declined -/
example : let x : CSt := { client := some ⟨⟨7⟩, none⟩, versions := c10Chain }
    (cAddSnapshot {} x ⟨3⟩ .empty 0).1 = .asDone true ∧ (cAddSnapshot {} x ⟨2⟩ .empty 0).1 = .asDone false ∧
    (cAddSnapshot {} x Uuid.nil .empty 0).1 = .asDone false ∧ (cAddSnapshot {} x ⟨7⟩ .empty 0).1 = .asDone true := by
  decide +kernel

/-- snapshot at 5: newer versions are accepted, 5 itself and older ones (behind it) are declined -/
example : let x : CSt := { client := some ⟨⟨7⟩, some ⟨⟨5⟩, 0, 2⟩⟩, data := some .empty, versions := c10Chain }
    (cAddSnapshot {} x ⟨6⟩ .empty 0).1 = .asDone true ∧ (cAddSnapshot {} x ⟨5⟩ .empty 0).1 = .asDone false ∧
    (cAddSnapshot {} x ⟨4⟩ .empty 0).1 = .asDone false ∧ (cAddSnapshot {} x ⟨3⟩ .empty 0).1 = .asDone false ∧
    curSnap (cAddSnapshot {} x ⟨6⟩ .empty 9).2 = some ⟨6⟩ ∧ anc x = [⟨7⟩, ⟨6⟩, ⟨5⟩, ⟨4⟩, ⟨3⟩, ⟨2⟩, ⟨1⟩, Uuid.nil] := by
  decide +kernel

/-- the unspecified corner: a non-nil base inside the window is accepted by the model -/
example : let x : CSt := { client := some ⟨⟨2⟩, none⟩, versions := [⟨⟨1⟩, ⟨9⟩, .empty⟩, ⟨⟨2⟩, ⟨1⟩, .empty⟩] }
    (cAddSnapshot {} x ⟨9⟩ .empty 0).1 = .asDone true := by
  decide +kernel

end Tcs
