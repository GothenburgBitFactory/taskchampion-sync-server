import Tcs.Proofs.UrgencyArith
import Tcs.Props.C02
namespace Tcs

/-! # C12 – the snapshot urgency reported by AddVersion, and the versions-since-snapshot counter -/

/-- one step of `countSince` -/
def sinceUpd (c : Uuid) (e : Ev) (o : Out) (acc : Option Nat) : Option Nat :=
  match e, o with
  | .as c' _ _ _, .asDone true => if c' = c then some 0 else acc
  | .av c' .., .avOk .. => if c' = c then acc.map (· + 1) else acc
  | .avLib c' .., .avOk .. => if c' = c then acc.map (· + 1) else acc
  | _, _ => acc

theorem sinceUpd_av_ok (c p : Uuid) (seg : Bytes) (n : Uuid) (now : Int) (v : Uuid) (u : Urgency) (acc : Option Nat) :
    sinceUpd c (.av c p seg n now) (.avOk v u) acc = acc.map (· + 1) := by
  simp [sinceUpd]

theorem sinceUpd_avLib_ok (c p : Uuid) (seg : Bytes) (n : Uuid) (now : Int) (v : Uuid) (u : Urgency) (acc : Option Nat) :
    sinceUpd c (.avLib c p seg n now) (.avOk v u) acc = acc.map (· + 1) := by
  simp [sinceUpd]

theorem sinceUpd_av_other (c c' p : Uuid) (seg : Bytes) (n : Uuid) (now : Int) (o : Out) (acc : Option Nat)
    (h : ∀ v u, o ≠ .avOk v u) : sinceUpd c (.av c' p seg n now) o acc = acc := by
  cases o <;> first | rfl | exact absurd rfl (h _ _)

theorem sinceUpd_avLib_other (c c' p : Uuid) (seg : Bytes) (n : Uuid) (now : Int) (o : Out) (acc : Option Nat)
    (h : ∀ v u, o ≠ .avOk v u) : sinceUpd c (.avLib c' p seg n now) o acc = acc := by
  cases o <;> first | rfl | exact absurd rfl (h _ _)

theorem sinceUpd_as (c v : Uuid) (d : Bytes) (now : Int) (o : Out) (acc : Option Nat) :
    sinceUpd c (.as c v d now) o acc = if o = .asDone true then some 0 else acc := by
  cases o with
  | asDone b => cases b <;> simp [sinceUpd]
  | _ => simp [sinceUpd]

theorem sinceUpd_noClient (e : Ev) (o : Out) (c : Uuid) (hc : e.client = none) (acc : Option Nat) :
    sinceUpd c e o acc = acc := by
  cases e <;> first | (cases o <;> rfl) | simp [Ev.client] at hc

/-- the counter as the history defines it: reset to 0 by an accepted AddSnapshot of `c`, +1 by every accepted
    AddVersion of `c` while a snapshot exists (`none` = no snapshot stored) -/
def countSince (c : Uuid) : List Ev → List Out → Option Nat → Option Nat
  | e :: es, o :: os, acc => countSince c es os (sinceUpd c e o acc)
  | _, _, acc => acc

/-- the counter stored in a record -/
def sinceOf (x : CSt) : Option Nat := (snapOf x).map (·.since)

theorem countSince_cons (c : Uuid) (e : Ev) (es : List Ev) (o : Out) (os : List Out) (acc : Option Nat) :
    countSince c (e :: es) (o :: os) acc = countSince c es os (sinceUpd c e o acc) := rfl

theorem snapOf_cCreate (x : CSt) : snapOf (cCreate x) = snapOf x := by
  rcases x with ⟨_ | cl, d, vs⟩ <;> rfl

theorem sinceOf_cCreate (x : CSt) : sinceOf (cCreate x) = sinceOf x := by
  simp only [sinceOf, snapOf_cCreate]

/-- AddVersion, with or without the implicit create (`e` is either form of the event): an accepted one bumps the
    counter if there is a snapshot, any other answer leaves the record -/
theorem sinceOf_cAddVersion (cfg : Config) (x : CSt) (c p : Uuid) (seg : Bytes) (n : Uuid) (now : Int) (e : Ev)
    (he : e = .av c p seg n now ∨ e = .avLib c p seg n now) :
    sinceOf (cAddVersion cfg x p seg n now).2 = sinceUpd c e (cAddVersion cfg x p seg n now).1 (sinceOf x) := by
  rcases cAddVersion_cases cfg x p seg n now with ⟨cl, hcl, h⟩ | ⟨h1, h2⟩
  · rw [h]
    rcases he with rfl | rfl
    · rw [sinceUpd_av_ok]; simp [sinceOf, snapOf, hcl]; rfl
    · rw [sinceUpd_avLib_ok]; simp [sinceOf, snapOf, hcl]; rfl
  · rw [h1]
    rcases he with rfl | rfl <;> cases ho : (cAddVersion cfg x p seg n now).1 <;>
      first | rfl | exact absurd ho (h2 _ _)

/-- AddSnapshot: an accepted one resets the counter to 0, any other answer leaves the record -/
theorem sinceOf_cAddSnapshot (P : Params) (x : CSt) (c v : Uuid) (d : Bytes) (now : Int) :
    sinceOf (cAddSnapshot P x v d now).2 = sinceUpd c (.as c v d now) (cAddSnapshot P x v d now).1 (sinceOf x) := by
  rcases cAddSnapshot_cases P x v d now with ⟨cl, -, h⟩ | ⟨h1, h2⟩
  · rw [h, sinceUpd_as, if_pos rfl]
    rfl
  · rw [h1]
    cases ho : (cAddSnapshot P x v d now).1 with
    | asDone b => cases b <;> first | rfl | exact absurd ho h2
    | _ => rfl

theorem sinceOf_cstep (S : Sys) (e : Ev) (x : CSt) (c : Uuid) (hc : e.client = some c) :
    sinceOf (cstep S e x).2 = sinceUpd c e (cstep S e x).1 (sinceOf x) := by
  cases e <;> cases hc
  case av p seg n now => rw [cstep, sinceOf_cAddVersion _ _ c _ _ _ _ _ (.inl rfl), sinceOf_cCreate]
  case avLib p seg n now => exact sinceOf_cAddVersion _ _ c _ _ _ _ _ (.inr rfl)
  case «as» v d now => exact sinceOf_cAddSnapshot ..
  case create => exact sinceOf_cCreate x
  case gcv p => rfl
  case gs => rfl

theorem sinceUpd_other (c : Uuid) (e : Ev) (o : Out) (acc : Option Nat) (h : e.client ≠ some c) :
    sinceUpd c e o acc = acc := by
  unfold sinceUpd
  split <;> first | rfl | exact if_neg fun hh => h (congrArg some hh)

/-- C12 (counter), abstract level: after any history the stored counter is exactly the number of versions
    accepted since the current snapshot was stored -/
theorem asRunH_countSince (S : Sys) (h : List Ev) (a : AS) (c : Uuid) :
    sinceOf ((asRunH S h a).2.st c) = countSince c h (asRunH S h a).1 (sinceOf (a.st c)) :=
  asRunH_track S c sinceOf (sinceUpd c) (countSince c) (fun _ => rfl) (countSince_cons c)
    (fun e x hc => sinceOf_cstep S e x c hc) (sinceUpd_other c) h a

/-- C12 (counter) on every backend, from the empty database -/
theorem C12_counter {σ} (I : Impl σ) (S : Sys) (hS : S.ensure = ensureClientFixed) (h : List Ev)
    (hf : Fresh h []) (c : Uuid) :
    sinceOf ((I.abs (runH I.B I.mode S h I.init).2).st c) =
      countSince c h (runH I.B I.mode S h I.init).1 none := by
  obtain ⟨h1, h2⟩ := runH_init I S hS h hf
  rw [h1, h2]
  exact asRunH_countSince S h {} c

/-- C12 (inputs): the urgency reported with an accepted AddVersion is a function of the PRE-request snapshot
    record, the clock reading and the configuration only -/
theorem C12_only_inputs (S : Sys) (x : CSt) (c p : Uuid) (seg : Bytes) (newId : Uuid) (now : Int) (v : Uuid)
    (u : Urgency) (h : (cstep S (.av c p seg newId now) x).1 = .avOk v u) :
    u = urgency S.cfg now (snapOf x) := by
  have hs := C02_spec S x c p seg newId now
  split at hs
  · rw [hs.1] at h
    simp only [Out.avOk.injEq] at h
    exact h.2.symm
  · rw [hs.1] at h
    cases h

/-- C12 (levels): high when there is no snapshot or either measure reached one and a half times its target
    (⌊3t/2⌋), low when either reached its target, none otherwise -/
theorem C12_levels (cfg : Config) (hd : 0 ≤ cfg.days) (now : Int) :
    urgency cfg now none = .high ∧
    ∀ s : Snapshot,
      (urgency cfg now (some s) = .high ↔
        (days now s.ts ≥ threeHalves cfg.days ∨ (s.since : Int) ≥ threeHalves cfg.versions)) ∧
      (urgency cfg now (some s) = .none ↔ (days now s.ts < cfg.days ∧ (s.since : Int) < cfg.versions)) ∧
      (urgency cfg now (some s) = .low ↔
        ¬ (days now s.ts ≥ threeHalves cfg.days ∨ (s.since : Int) ≥ threeHalves cfg.versions) ∧
        ¬ (days now s.ts < cfg.days ∧ (s.since : Int) < cfg.versions)) := by
  refine ⟨rfl, fun s => ?_⟩
  have hh := urgency_high_iff cfg now s
  have hn := urgency_none_iff cfg hd now s
  rw [← hh, ← hn]
  cases urgency cfg now (some s) <;> decide

/-- C12 (ordering): the high threshold is never below the low one, and is ⌊3t/2⌋ -/
theorem C12_thresholds_ordered (t : Int) (ht : 0 ≤ t) : t ≤ threeHalves t ∧ threeHalves t = t * 3 / 2 :=
  ⟨thresholds_ordered t ht, threeHalves_nonneg t ht⟩

/-- C12 (monotonicity): for one stored snapshot the urgency never decreases as the clock or the counter grows -/
theorem C12_monotone (cfg : Config) (hd : 0 ≤ cfg.days) (now now' : Int) (s s' : Snapshot) (hv : s.vid = s'.vid)
    (hts : s.ts = s'.ts) (hn : now ≤ now') (hs : s.since ≤ s'.since) :
    (urgency cfg now (some s)).toNat ≤ (urgency cfg now' (some s')).toNat := by
  have _ := hv  -- the statement carries `hv`; the proof does not need it
  have h1 := lvl_monotone _ _ _ hd (days_monotone now now' s.ts hn)
  have h2 := lvl_monotone s.since s'.since cfg.versions (Int.natCast_nonneg _) (Int.ofNat_le.mpr hs)
  simp only [urgency, max_toNat, ← hts]
  omega

/-- C12 (no overflow): three times a `u32` target fits `u64`, and three times an `i64` target fits `i128` – the types in
    which the repaired source forms `target * 3`. That the comparison written in those types computes `lvl` without a
    panic is `C12_src_for_versions_since` / `C12_src_for_days` (`Proofs/UrgencySrcTie.lean`). -/
theorem C12_no_overflow (tv : Nat) (htv : tv < 2 ^ 32) (td : Int) (h1 : -(2 ^ 63) ≤ td) (h2 : td < 2 ^ 63) :
    tv * 3 < 2 ^ 64 ∧ -(2 ^ 127) ≤ td * 3 ∧ td * 3 < 2 ^ 127 :=
  ⟨by omega, by omega, by omega⟩

/-- C12 (specification): the repaired comparison `lvl` is the integer specification `specLvl` for every non-negative target -/
theorem C12_meets_spec (x t : Int) (ht : 0 ≤ t) : lvl x t = specLvl x t := by
  have : x ≥ t * 3 / 2 ↔ 2 * x ≥ 3 * t - (3 * t) % 2 := by omega
  simp only [lvl, specLvl, threeHalves_nonneg t ht, this]

/-- the fixed-width arithmetic as it stood before the repair overflows (`none` = overflow panic): a `u32` witness
    (`⌈2^32 / 3⌉`) and an `i64` witness (`i64::MAX / 3 + 1`) -/
theorem C12_pinned_overflow :
    lvlU32Pinned 1431655766 1431655766 = none ∧ lvlI64Pinned 0 3074457345618258603 = none :=
  ⟨by decide, by unfold lvlI64Pinned; rw [if_neg (by decide)]⟩

/-- the repair changes nothing where the pinned arithmetic did not overflow -/
theorem C12_fix_conservative (x t : Nat) (h : t * 3 < 2 ^ 32) : lvlU32Pinned x t = some (lvl x t) := by
  have e1 : (x : Int) ≥ (t : Int) * 3 / 2 ↔ x ≥ t * 3 / 2 := by omega
  have e2 : (x : Int) ≥ (t : Int) ↔ x ≥ t := by omega
  simp only [lvlU32Pinned, if_pos h, lvl, threeHalves_nonneg _ (Int.natCast_nonneg t), e1, e2]

/-- client 1, after every prefix of the history: two versions (no snapshot: counter absent, urgency high), an
    accepted snapshot (counter 0), a version of ANOTHER client (still 0), two more versions (1, 2; the answers carry
    the urgency of the PRE-request counter 0, 1 against target 2: none), a declined snapshot (unknown version;
    counter stays 2), an accepted one (reset to 0), one more version (1). Record and history agree throughout. -/
example :
    let S : Sys := { cfg := ⟨14, 2⟩ }
    let h : List Ev := [.av ⟨1⟩ Uuid.nil .empty ⟨10⟩ 0, .av ⟨1⟩ ⟨10⟩ .empty ⟨11⟩ 0, .as ⟨1⟩ ⟨11⟩ .empty 0,
      .av ⟨2⟩ Uuid.nil .empty ⟨20⟩ 0, .av ⟨1⟩ ⟨11⟩ .empty ⟨12⟩ 0, .av ⟨1⟩ ⟨12⟩ .empty ⟨13⟩ 0,
      .as ⟨1⟩ ⟨99⟩ .empty 0, .as ⟨1⟩ ⟨13⟩ .empty 0, .av ⟨1⟩ ⟨13⟩ .empty ⟨14⟩ 0]
    (List.range 10).map (fun n => sinceOf ((asRunH S (h.take n) {}).2.st ⟨1⟩)) =
      [none, none, none, some 0, some 0, some 1, some 2, some 2, some 0, some 1] ∧
    (List.range 10).map (fun n => countSince ⟨1⟩ (h.take n) (asRunH S (h.take n) {}).1 none) =
      [none, none, none, some 0, some 0, some 1, some 2, some 2, some 0, some 1] ∧
    countSince ⟨2⟩ h (asRunH S h {}).1 none = none ∧
    (asRunH S h {}).1 = [.avOk ⟨10⟩ .high, .avOk ⟨11⟩ .high, .asDone true, .avOk ⟨20⟩ .high, .avOk ⟨12⟩ .none,
      .avOk ⟨13⟩ .none, .asDone false, .asDone true, .avOk ⟨14⟩ .none] := by
  decide +kernel

/-- the three levels are all reached: targets 14 days / 100 versions -/
example :
    urgency ⟨14, 100⟩ (13 * 86400) (some ⟨⟨1⟩, 0, 99⟩) = .none ∧
    urgency ⟨14, 100⟩ (14 * 86400) (some ⟨⟨1⟩, 0, 0⟩) = .low ∧
    urgency ⟨14, 100⟩ 0 (some ⟨⟨1⟩, 0, 100⟩) = .low ∧
    urgency ⟨14, 100⟩ 0 (some ⟨⟨1⟩, 0, 149⟩) = .low ∧
    urgency ⟨14, 100⟩ 0 (some ⟨⟨1⟩, 0, 150⟩) = .high ∧
    urgency ⟨14, 100⟩ (21 * 86400) (some ⟨⟨1⟩, 0, 0⟩) = .high ∧
    urgency ⟨14, 100⟩ 0 none = .high := by
  decide +kernel

end Tcs
