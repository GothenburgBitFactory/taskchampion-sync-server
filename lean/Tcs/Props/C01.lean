import Tcs.Proofs.Impl
namespace Tcs

/-! # C01 – each client's versions form one unbranched chain, walkable end to end -/

/-- versions accepted for client `c` in a history, in order of acceptance: (id, parent, payload) -/
def accepted (c : Uuid) : List Ev → List Out → List Version
  | e :: es, o :: os => (if e.client = some c then appended e o else []) ++ accepted c es os
  | _, _ => []

theorem accepted_eq_flatMap (c : Uuid) (h : List Ev) (outs : List Out) :
    accepted c h outs = (h.zip outs).flatMap fun p => if p.1.client = some c then appended p.1 p.2 else [] := by
  induction h generalizing outs with
  | nil => rfl
  | cons e es ih => cases outs <;> simp [accepted, ih]

theorem mem_accepted (c : Uuid) (h : List Ev) (outs : List Out) (i : Nat) (e : Ev) (o : Out) (v : Version)
    (he : h[i]? = some e) (ho : outs[i]? = some o) (hc : e.client = some c) (hv : v ∈ appended e o) :
    v ∈ accepted c h outs := by
  rw [accepted_eq_flatMap, List.mem_flatMap]
  exact ⟨(e, o), List.mem_of_getElem? (List.getElem?_zip_eq_some.mpr ⟨he, ho⟩), by simp [hc, hv]⟩

/-- the walk a new replica performs against a backend state: ask for the child of `p`, continue from the returned id -/
def walkFrom {σ} (I : Impl σ) (S : Sys) (c : Uuid) (s : σ) : Nat → Uuid → List Out
  | 0, _ => []
  | n+1, p =>
    match ((Ev.gcv c p).req S).run I.B I.mode s with
    | (.found v, _) => .found v :: walkFrom I S c s n v.id
    | (o, _) => [o]

theorem walkFrom_found {σ} (I : Impl σ) (S : Sys) (c : Uuid) (s : σ) (n : Nat) (p : Uuid) (v : Version)
    (h : (((Ev.gcv c p).req S).run I.B I.mode s).1 = .found v) :
    walkFrom I S c s (n + 1) p = .found v :: walkFrom I S c s n v.id := by
  simp only [walkFrom]
  generalize ((Ev.gcv c p).req S).run I.B I.mode s = r at h
  rcases r with ⟨o, s'⟩
  simp only at h
  subst h
  rfl

theorem walkFrom_notFound {σ} (I : Impl σ) (S : Sys) (c : Uuid) (s : σ) (n : Nat) (p : Uuid)
    (h : (((Ev.gcv c p).req S).run I.B I.mode s).1 = .notFound) :
    walkFrom I S c s (n + 1) p = [.notFound] := by
  simp only [walkFrom]
  generalize ((Ev.gcv c p).req S).run I.B I.mode s = r at h
  rcases r with ⟨o, s'⟩
  simp only at h
  subst h
  rfl

/-- (abstract level) the stored versions of `c` after a history are exactly the accepted ones, in order -/
theorem asRunH_versions (S : Sys) (h : List Ev) (a : AS) (c : Uuid) :
    ((asRunH S h a).2.st c).versions = (a.st c).versions ++ accepted c h (asRunH S h a).1 :=
  asRunH_track S c (·.versions) (fun e o b => b ++ if e.client = some c then appended e o else [])
    (fun h os b => b ++ accepted c h os) (fun b => List.append_nil b)
    (fun e es o os b => (List.append_assoc ..).symm)
    (fun e x hc => by rw [if_pos hc]; exact cstep_versions S e x)
    (fun e o b hc => by rw [if_neg hc]; exact List.append_nil b) h a

/-- on a good state the replica walk against the backend is the abstract walk over the stored record -/
theorem walkFrom_eq_walkOuts {σ} (I : Impl σ) (S : Sys) (hS : S.ensure = ensureClientFixed) (c : Uuid) (s : σ)
    (hg : Good I s) (n : Nat) (p : Uuid) : walkFrom I S c s n p = walkOuts ((I.abs s).st c) n p := by
  induction n generalizing p with
  | zero => rfl
  | succ n ih =>
    simp only [walkFrom, walkOuts]
    rw [← gcv_good I S hS s hg c p]
    generalize ((Ev.gcv c p).req S).run I.B I.mode s = r
    obtain ⟨o, s'⟩ := r
    cases o <;> simp only [ih]

/-- every history from the empty database reaches a good state that stores exactly the accepted versions -/
theorem hist_accepted {σ} (I : Impl σ) (S : Sys) (hS : S.ensure = ensureClientFixed) (h : List Ev) (hf : Fresh h []) :
    Good I (runH I.B I.mode S h I.init).2 ∧ (runH I.B I.mode S h I.init).1 = (asRunH S h {}).1 ∧
      ∀ c, ((I.abs (runH I.B I.mode S h I.init).2).st c).versions = accepted c h (runH I.B I.mode S h I.init).1 := by
  obtain ⟨h1, h2⟩ := runH_init I S hS h hf
  refine ⟨runH_good I S hS h hf, h1, fun c => ?_⟩
  rw [h2, h1]
  simpa using asRunH_versions S h {} c

/-- C01 (a): on every backend, after any fresh history from the empty database, what is stored for a client is exactly
    what was accepted for it, in acceptance order — nothing orphaned, nothing extra -/
theorem C01_stored_eq_accepted {σ} (I : Impl σ) (S : Sys) (hS : S.ensure = ensureClientFixed) (h : List Ev) (hf : Fresh h [])
    (c : Uuid) :
    ((I.abs (runH I.B I.mode S h I.init).2).st c).versions = accepted c h (runH I.B I.mode S h I.init).1 :=
  (hist_accepted I S hS h hf).2.2 c

/-- C01 (b): no two stored versions of one client share a parent -/
theorem C01_no_shared_parent {σ} (I : Impl σ) (S : Sys) (hS : S.ensure = ensureClientFixed) (h : List Ev) (hf : Fresh h [])
    (c : Uuid) (v w : Version) (hv : v ∈ accepted c h (runH I.B I.mode S h I.init).1)
    (hw : w ∈ accepted c h (runH I.B I.mode S h I.init).1) (hp : v.parent = w.parent) : v = w := by
  obtain ⟨hg, _, hst⟩ := hist_accepted I S hS h hf
  rw [← hst c] at hv hw
  exact no_shared_parent _ _ (hg.inv.each c).wf v w hv hw hp

/-- C01 (c): starting from the parent of the first accepted version, the replica walk returns every accepted version
    exactly once, in acceptance order, each with its id, parent and payload, and then answers not-found -/
theorem C01_chain_walk {σ} (I : Impl σ) (S : Sys) (hS : S.ensure = ensureClientFixed) (h : List Ev) (hf : Fresh h []) (c : Uuid)
    (v0 : Version) (rest : List Version) (ha : accepted c h (runH I.B I.mode S h I.init).1 = v0 :: rest) :
    walkFrom I S c (runH I.B I.mode S h I.init).2 (rest.length + 2) v0.parent =
      (v0 :: rest).map Out.found ++ [Out.notFound] := by
  obtain ⟨hg, _, hst⟩ := hist_accepted I S hS h hf
  have hvs := (hst c).trans ha
  have hci := hg.inv.each c
  have := walkOuts_from_base _ hci (fun hcl => by simpa [hvs] using (hci.noClient hcl).1)
  rw [hvs] at this
  rw [walkFrom_eq_walkOuts I S hS c _ hg]
  exact this

theorem C01_chain_walk_sql (S : Sys) (hS : S.ensure = ensureClientFixed) (h : List Ev) (hf : Fresh h []) (c : Uuid)
    (v0 : Version) (rest : List Version) (ha : accepted c h (runH SqlB .snapshotCommit S h {}).1 = v0 :: rest) :
    walkFrom sqlImpl S c (runH SqlB .snapshotCommit S h {}).2 (rest.length + 2) v0.parent =
      (v0 :: rest).map Out.found ++ [Out.notFound] :=
  C01_chain_walk sqlImpl S hS h hf c v0 rest ha

theorem C01_chain_walk_mem (S : Sys) (hS : S.ensure = ensureClientFixed) (h : List Ev) (hf : Fresh h []) (c : Uuid)
    (v0 : Version) (rest : List Version) (ha : accepted c h (runH MemB .inPlace S h {}).1 = v0 :: rest) :
    walkFrom memImpl S c (runH MemB .inPlace S h {}).2 (rest.length + 2) v0.parent =
      (v0 :: rest).map Out.found ++ [Out.notFound] :=
  C01_chain_walk memImpl S hS h hf c v0 rest ha

/-! ### non-vacuity: two clients, a conflict, a non-nil first parent -/

namespace C01Ex
def S : Sys := { cfg := ⟨14, 100⟩ }
/-- client 1 starts its chain at parent 5, client 2 interleaves, a stale AddVersion of client 1 is rejected -/
def h : List Ev :=
  [ .av ⟨1⟩ ⟨5⟩ ⟨#[1]⟩ ⟨10⟩ 0, .av ⟨2⟩ Uuid.nil ⟨#[2]⟩ ⟨11⟩ 0, .av ⟨1⟩ ⟨5⟩ ⟨#[3]⟩ ⟨12⟩ 0,
    .av ⟨1⟩ ⟨10⟩ ⟨#[4]⟩ ⟨13⟩ 0, .gcv ⟨1⟩ ⟨5⟩ ]
end C01Ex

example : Fresh C01Ex.h [] := by
  simp [C01Ex.h, Fresh, FreshEv, seenAfter, Ev.drawn, Ev.argIds, Uuid.nil]

example : (asRunH C01Ex.S C01Ex.h {}).1 =
    [.avOk ⟨10⟩ .high, .avOk ⟨11⟩ .high, .avConflict ⟨10⟩, .avOk ⟨13⟩ .high, .found ⟨⟨10⟩, ⟨5⟩, ⟨#[1]⟩⟩] := by decide +kernel

example : accepted ⟨1⟩ C01Ex.h (runH SqlB .snapshotCommit C01Ex.S C01Ex.h {}).1 =
    [⟨⟨10⟩, ⟨5⟩, ⟨#[1]⟩⟩, ⟨⟨13⟩, ⟨10⟩, ⟨#[4]⟩⟩] := by decide +kernel

example : accepted ⟨2⟩ C01Ex.h (runH MemB .inPlace C01Ex.S C01Ex.h {}).1 = [⟨⟨11⟩, Uuid.nil, ⟨#[2]⟩⟩] := by decide +kernel

example : walkFrom memImpl C01Ex.S ⟨1⟩ (runH MemB .inPlace C01Ex.S C01Ex.h {}).2 3 ⟨5⟩ =
    [.found ⟨⟨10⟩, ⟨5⟩, ⟨#[1]⟩⟩, .found ⟨⟨13⟩, ⟨10⟩, ⟨#[4]⟩⟩, .notFound] := by decide +kernel

example : walkFrom sqlImpl C01Ex.S ⟨1⟩ (runH SqlB .snapshotCommit C01Ex.S C01Ex.h {}).2 3 ⟨5⟩ =
    [.found ⟨⟨10⟩, ⟨5⟩, ⟨#[1]⟩⟩, .found ⟨⟨13⟩, ⟨10⟩, ⟨#[4]⟩⟩, .notFound] := by decide +kernel

end Tcs
