import Tcs.Props.C14
import Tcs.Proofs.InvProofs
namespace Tcs

/-! # C06 – payloads are returned byte for byte -/

/-- for every payload and EVERY splitting of it into chunks (including empty chunks) the assembled body is the payload -/
theorem C06_assemble (maxSize : Nat) (chunks : List Bytes) (h : (chunks.map (·.size)).sum ≤ maxSize) :
    assemble maxSize chunks ByteArray.empty = some (chunks.foldl (· ++ ·) ByteArray.empty) := by
  rw [assemble_empty, if_pos h]

theorem C06_chunking_irrelevant (maxSize : Nat) (c1 c2 : List Bytes) (h : c1.foldl (· ++ ·) ByteArray.empty = c2.foldl (· ++ ·) ByteArray.empty)
    (h1 : (c1.map (·.size)).sum ≤ maxSize) : assemble maxSize c1 ByteArray.empty = assemble maxSize c2 ByteArray.empty := by
  have hs : (c1.map (·.size)).sum = (c2.map (·.size)).sum := by
    simpa [foldl_append_size] using congrArg ByteArray.size h
  rw [C06_assemble maxSize c1 h1, C06_assemble maxSize c2 (hs ▸ h1), h]

/-- a payload cut anywhere into two chunks is reassembled, exactly as the uncut one (any number of chunks: `C06_assemble`) -/
theorem C06_split_anywhere (maxSize : Nat) (a b : Bytes) (h : (a ++ b).size ≤ maxSize) :
    assemble maxSize [a, b] ByteArray.empty = some (a ++ b) ∧ assemble maxSize [a ++ b] ByteArray.empty = some (a ++ b) := by
  constructor
  · rw [C06_assemble _ _ (by simpa using h)]; simp
  · rw [C06_assemble _ _ (by simpa [ByteArray.size_append] using h)]; simp

/-- the stored payload of an accepted version is the uploaded body, and GetChildVersion's response body is that stored payload, with its id and parent -/
theorem C06_version_roundtrip (S : Sys) (x : CSt) (c p : Uuid) (seg : Bytes) (newId : Uuid) (now : Int) (u : Urgency)
    (h : (cstep S (.av c p seg newId now) x).1 = .avOk newId u) (hx : CInv x) (hfr : FreshFor (cCreate x) newId p) :
    cGetChild (cstep S (.av c p seg newId now) x).2 p = .found ⟨newId, p, seg⟩ ∧ (respond (.found ⟨newId, p, seg⟩)).body = seg := by
  refine ⟨?_, rfl⟩
  have hinv : CInv (cstep S (.av c p seg newId now) x).2 :=
    cinv_cAddVersion S.cfg _ (cinv_cCreate x hx) p seg newId now hfr
  rcases cAddVersion_cases S.cfg (cCreate x) p seg newId now with ⟨cl, _, e⟩ | ⟨_, hne⟩
  · have e' : cstep S (.av c p seg newId now) x = _ := e
    rw [e'] at hinv ⊢
    simp only [cGetChild, find_parent_of_mem _ _ hinv.wf ⟨newId, p, seg⟩ (by simp)]
  · exact absurd h (hne _ _)

/-- the snapshot bytes returned are the uploaded ones, with the version id of the same upload -/
theorem C06_snapshot_roundtrip (P : Params) (x : CSt) (v : Uuid) (data : Bytes) (now : Int)
    (h : (cAddSnapshot P x v data now).1 = .asDone true) : cGetSnapshot (cAddSnapshot P x v data now).2 = .snap v data := by
  rcases cAddSnapshot_cases P x v data now with ⟨c, _, e⟩ | ⟨_, hne⟩
  · rw [e]; rfl
  · exact absurd h hne

/-- the response that encodes `found v` has `v.seg` as its body and decodes to `child v` (that the GetChildVersion handler
    answers with this encoding is `C14_handler_uses_respond`) -/
theorem C06_response_body (v : Version) : (addCC (respond (.found v))).body = v.seg ∧
    decode (addCC (respond (.found v))) = .child v :=
  ⟨rfl, C14_decode_respond (.found v)⟩

end Tcs
