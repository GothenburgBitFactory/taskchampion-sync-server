import Tcs.Proofs.HttpProofs
namespace Tcs

/-! # C20 – every response forbids caching -/

theorem respond_cc (o : Out) : (respond o).cc = none := by cases o <;> rfl
theorem refuse_cc (f : Refusal) : (refuse f).cc = none := rfl
theorem addCC_cc (x : Response) (h : x.cc = none) : (addCC x).cc = some CACHE_CONTROL := by
  simp [addCC, h]

/-- every response of every handler (index, unknown route, refusals, protocol answers, storage errors), on every
    backend and from every state, carries `Cache-Control: no-store, max-age=0` -/
theorem C20_all_responses {σ} (B : Backend σ) (mode : TxnMode) (h : HttpCfg) (r : Request) (s : σ) :
    ((serve h r).run B mode s).1.cc = some CACHE_CONTROL := by
  rw [serve_factor]
  cases parseReq h r with
  | index | unknown | refused => rfl
  | ev e =>
    simp only [map_run]
    exact addCC_cc _ (respond_cc _)

theorem C20_value : CACHE_CONTROL = "no-store, max-age=0" := rfl

/-- applying the default-header wrapper twice is applying it once: the second application finds the `Cache-Control` the
    first one put there and keeps it (that `addCC` only fills in a missing header is its definition) -/
theorem C20_wrapper_idempotent (x : Response) : addCC (addCC x) = addCC x := by
  simp [addCC]

end Tcs
