import Tcs.Model.Types
import Tcs.Model.Txn
import Tcs.Model.Server
import Tcs.Model.Mem
import Tcs.Model.Sql
import Tcs.Model.Seq
import Tcs.Model.Codec
import Tcs.Model.Http
import Tcs.Model.History
import Tcs.Model.Config
import Tcs.Model.Rows
import Tcs.Model.CliSpec
import Tcs.Model.Sem.Fault
import Tcs.Model.Sem.Conc
import Tcs.Generated.ParamsImpl
import Tcs.Spec.AS
import Tcs.Spec.Abs
import Tcs.Spec.Chain
import Tcs.Spec.CStep
import Tcs.Spec.HttpSpec
import Tcs.Spec.ConcSpec
import Tcs.Proofs.CodecProofs
import Tcs.Proofs.RowProofs
import Tcs.Proofs.UrgencyArith
import Tcs.Proofs.ListLemmas
import Tcs.Proofs.ChainProofs
import Tcs.Proofs.Run
import Tcs.Proofs.SpecFacts
import Tcs.Proofs.InvProofs
import Tcs.Proofs.HistProofs
import Tcs.Proofs.ASRun
import Tcs.Proofs.ASReq
import Tcs.Proofs.ASExec
import Tcs.Proofs.SimGen
import Tcs.Proofs.SqlSim
import Tcs.Proofs.MemSim
import Tcs.Proofs.Impl
import Tcs.Proofs.TxnShape
import Tcs.Proofs.NoWrite
import Tcs.Props.C01
import Tcs.Props.C02
import Tcs.Props.C07
import Tcs.Props.C08
import Tcs.Props.C09
import Tcs.Props.C13
import Tcs.Props.C10
import Tcs.Props.C11
import Tcs.Props.C12
import Tcs.Props.C18
import Tcs.Proofs.Dispatch
import Tcs.Proofs.HttpProofs
import Tcs.Props.C14
import Tcs.Props.C06
import Tcs.Props.C15
import Tcs.Props.C16
import Tcs.Props.C20
import Tcs.Proofs.FaultSafety
import Tcs.Proofs.ReqFault
import Tcs.Props.C04
import Tcs.Props.C17
import Tcs.Proofs.Reduction
import Tcs.Proofs.LinSpec
import Tcs.Proofs.LinImpl
import Tcs.Props.C03
import Tcs.Props.C03Http
-- Ties to the terms generated from the server's source. Only these are under the root: the modules under
-- Proofs/SqlTie, most of Proofs/HandlerTie, Proofs/UrgencySrcTie and Proofs/ServerSrcTie/GetChildSem are deliberately
-- left out, because the check runner builds each tie module by name, so that a statement that no longer matches the
-- source fails its own check only.
import Tcs.Proofs.CliSrcTie
import Tcs.Proofs.CliWire
import Tcs.Proofs.CliSrcAll
import Tcs.Proofs.ServerSrcTie
import Tcs.Proofs.HandlerTie.WebNew
import Tcs.Proofs.HandlerTie.Scope
import Tcs.Proofs.MemSrcTie
